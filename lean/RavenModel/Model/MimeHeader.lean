import RavenModel.Model.MimeWriter
/-! The concrete header reader on the container headers the writer produces: `readHeader (containerHeader top ctype b ++ body)`
finds the header block, the boundary and the body again — for every media type `multipart/…` free of carriage returns and
semicolons and every boundary free of carriage returns and double quotes (the writer's are `multipart/<subtype>` and
`----=_Part_<Subtype>_<id>[_<n>]`), and whatever the body is. With this the
end-to-end theorem (`C02.repaired_tree_as_written`, from `assign_fresh`) holds for the concrete reader; what remains a
hypothesis is only that no *leaf* is mistaken for a container (a leaf whose own header says `Content-Type: multipart/…; boundary="…"` is one). -/
namespace Raven.Mime
open Raven Raven.GoStr

theorem findSub_cons (pat : Bytes) (c : UInt8) (s : Bytes) (h : hasPrefix (c :: s) pat = false) :
    findSub pat (c :: s) = (findSub pat s).map (fun x => (c :: x.1, x.2)) := by
  simp [findSub, h]

theorem findSub_append (p0 : UInt8) (pt : Bytes) : ∀ (a r : Bytes), p0 ∉ a →
    findSub (p0 :: pt) (a ++ r) = (findSub (p0 :: pt) r).map (fun x => (a ++ x.1, x.2))
  | [], r, _ => by simp
  | c :: a, r, h => by
    have hc : c ≠ p0 := fun e => h (by simp [e])
    rw [List.cons_append, findSub_cons _ _ _ (by simp [hasPrefix, hc]), findSub_append p0 pt a r (fun m => h (by simp [m]))]
    cases findSub (p0 :: pt) r <;> rfl

theorem findSub_after (p0 : UInt8) (pt a r : Bytes) (h : p0 ∉ a) :
    findSub (p0 :: pt) (a ++ (p0 :: pt ++ r)) = some (a, r) := by
  have hp : hasPrefix (p0 :: (pt ++ r)) (p0 :: pt) = true := hasPrefix_append (p0 :: pt) r
  simp [findSub_append p0 pt a _ h, findSub, hp]

/-- a header line that is not empty does not end the header block -/
theorem findSub_blank_line (a s : Bytes) (ha : 13 ∉ a) (hs : hasPrefix s CRLF = false) :
    findSub (CRLF ++ CRLF) (a ++ (CRLF ++ s)) = (findSub (CRLF ++ CRLF) s).map (fun x => (a ++ (CRLF ++ x.1), x.2)) := by
  have h1 : hasPrefix (13 :: 10 :: s) (13 :: [10, 13, 10]) = false := by simpa [hasPrefix, CRLF] using hs
  have h2 : hasPrefix (10 :: s) (13 :: [10, 13, 10]) = false := rfl
  show findSub (13 :: [10, 13, 10]) (a ++ 13 :: 10 :: s) = (findSub (13 :: [10, 13, 10]) s).map _
  rw [findSub_append 13 _ a _ ha, findSub_cons _ _ _ h1, findSub_cons _ _ _ h2]
  cases findSub (13 :: [10, 13, 10]) s <;> rfl

def lit_mimeVersion : Bytes := b!"MIME-Version: 1.0"
def lit_contentType : Bytes := b!"Content-Type: "

/-- the writer's literals hold no carriage return and, in front of the boundary parameter, no semicolon -/
theorem lit_no_cr : 13 ∉ lit_mimeVersion ∧ 13 ∉ lit_contentType ∧ 13 ∉ lit_boundary := by decide +kernel
theorem lit_no_semi : 59 ∉ lit_mimeVersion ++ CRLF ∧ 59 ∉ lit_contentType := by decide +kernel

/-- the header block without its closing empty line -/
def headLines (top : Bool) (ctype b : Bytes) : Bytes :=
  (if top then lit_mimeVersion ++ CRLF else []) ++ lit_contentType ++ ctype ++ lit_boundary ++ b ++ [34]

-- the literals of both sides evaluate to the same lists: what is left is one re-bracketing
theorem containerHeader_eq (top : Bool) (ctype b : Bytes) :
    containerHeader top ctype b = headLines top ctype b ++ (CRLF ++ CRLF) :=
  (List.append_assoc _ [34] (CRLF ++ CRLF)).symm

theorem findSub_container (top : Bool) (ctype b body : Bytes) (hc : 13 ∉ ctype) (hb : 13 ∉ b) :
    findSub (CRLF ++ CRLF) (containerHeader top ctype b ++ body) = some (headLines top ctype b, body) := by
  have h0 : findSub (CRLF ++ CRLF) (_ ++ (CRLF ++ (CRLF ++ body))) = _ :=
    findSub_after 13 [10, 13, 10] (lit_contentType ++ ctype ++ lit_boundary ++ b ++ [34]) body
      (by simp only [List.mem_append, not_or]; exact ⟨⟨⟨⟨lit_no_cr.2.1, hc⟩, lit_no_cr.2.2⟩, hb⟩, by decide⟩)
  rw [containerHeader_eq]
  cases top <;> simp only [headLines, if_true, Bool.false_eq_true, if_false, List.nil_append, List.append_assoc] at h0 ⊢
  · exact h0
  · -- the line end after MIME-Version is followed by `C`, not by another line end
    rw [findSub_blank_line lit_mimeVersion _ lit_no_cr.1 rfl, h0]; rfl

/-- **the concrete reader reads the writer's container header**: header block, boundary and body come back, whatever the body -/
theorem readHeader_container (top : Bool) (ctype b body sub : Bytes) (hc : 13 ∉ ctype) (hs : 59 ∉ ctype) (hb : 13 ∉ b)
    (hq : 34 ∉ b) (hm : toLower ctype = (b!"multipart/") ++ sub) :
    readHeader (containerHeader top ctype b ++ body) = some (containerHeader top ctype b, b, body) := by
  unfold readHeader
  rw [findSub_container top ctype b body hc hb]
  -- the media type: in lower case the header block reads `… content-type: multipart/<sub> …`
  have hct : containsSub (toLower (headLines top ctype b)) lit_ctMulti = true :=
    (containsSub_iff _ _).2 ⟨toLower (if top then lit_mimeVersion ++ CRLF else []), sub ++ toLower (lit_boundary ++ b ++ [34]), by
      simp only [headLines, toLower_append, hm, List.append_assoc]; rfl⟩
  -- the boundary parameter: the first `; boundary="` is the writer's, the first `"` behind it closes the boundary
  have hsemi : 59 ∉ (if top then lit_mimeVersion ++ CRLF else []) ++ lit_contentType ++ ctype := by
    simp only [List.mem_append, not_or]
    refine ⟨⟨?_, lit_no_semi.2⟩, hs⟩
    cases top
    · nofun
    · exact lit_no_semi.1
  have hfb : findSub lit_boundary (_ ++ (lit_boundary ++ (b ++ [34]))) = _ := findSub_after 59 _ _ _ hsemi
  have hfq : findSub [34] (b ++ [34]) = some (b, []) := findSub_after 34 [] b [] hq
  rw [← List.append_assoc, ← List.append_assoc, ← headLines] at hfb
  simp only [hct, if_true, hfb, hfq, containerHeader_eq, List.append_assoc]

end Raven.Mime
