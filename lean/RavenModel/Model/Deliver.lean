import RavenModel.Model.Policy
/-! The DATA phase of an LMTP transaction as `Session.handleDATA → DeliverMessage` has it: one delivery attempt and one reply
per accepted recipient, in RCPT order; what a mailbox holds afterwards. Parsing (`net/mail`, `mime/multipart`) is library
code: its verdicts are parameters of the transaction. -/
namespace Raven.Deliver
open Raven Raven.Policy

/-- a mailbox: the store of an owner and a folder in it -/
abbrev Key := Owner × Bytes

structure Tx where
  valid : Bool                   -- ParseMessage and ValidateMessage accepted the message (From, a recipient header, size)
  mimeOK : Bool                  -- ParseMIMEMessage returned a part list
  folder : Bytes                 -- target folder (default folder, or Spam by the spam headers)
  owners : List (Option Owner)   -- the store each accepted RCPT resolves to, in RCPT order (`none`: no such store)

abbrev Counts := Key → Nat

def bump (c : Counts) (k : Key) : Counts := fun x => if x = k then c x + 1 else c x

def attempt (tx : Tx) (c : Counts) (o : Option Owner) : Counts × Nat :=
  if !tx.valid then (c, 554)            -- rejectTransaction: one 554 per recipient, nothing stored
  else match o with
    | none => (c, 550)
    | some ow => if tx.mimeOK then (bump c (ow, tx.folder), 250) else (c, 550)

def deliverFrom (tx : Tx) : Counts → List (Option Owner) → Counts × List Nat
  | c, [] => (c, [])
  | c, o :: os =>
    let (c1, r) := attempt tx c o
    let (c2, rs) := deliverFrom tx c1 os
    (c2, r :: rs)

def deliverAll (tx : Tx) (c : Counts) : Counts × List Nat := deliverFrom tx c tx.owners

/-- how many of the attempts were answered 2xx and aimed at mailbox `k` -/
def acceptedFor (tx : Tx) (k : Key) : List (Option Owner) → List Nat → Nat
  | o :: os, r :: rs => (if r = 250 ∧ o = some k.1 ∧ tx.folder = k.2 then 1 else 0) + acceptedFor tx k os rs
  | _, _ => 0

theorem deliverFrom_length (tx : Tx) : ∀ (os : List (Option Owner)) (c : Counts), (deliverFrom tx c os).2.length = os.length
  | [], _ => rfl
  | o :: os, c => by simp [deliverFrom, deliverFrom_length tx os]

theorem attempt_count (tx : Tx) (c : Counts) (o : Option Owner) (k : Key) :
    (attempt tx c o).1 k = c k + (if (attempt tx c o).2 = 250 ∧ o = some k.1 ∧ tx.folder = k.2 then 1 else 0) := by
  fun_cases attempt tx c o
  case case3 =>    -- the one leaf of `attempt` that stores
    obtain ⟨a, b⟩ := k
    simp [bump, eq_comm, apply_ite (c (a, b) + ·)]
  all_goals simp

/-- the mailbox count afterwards is the count before plus the number of 2xx replies given for that mailbox -/
theorem deliverFrom_count (tx : Tx) (k : Key) : ∀ (os : List (Option Owner)) (c : Counts),
    (deliverFrom tx c os).1 k = c k + acceptedFor tx k os (deliverFrom tx c os).2
  | [], c => by simp [deliverFrom, acceptedFor]
  | o :: os, c => by
    simp only [deliverFrom, acceptedFor]
    rw [deliverFrom_count tx k os, attempt_count tx c o k]
    omega

/-- every reply is one of the three codes the code sends after the end of data -/
theorem deliverFrom_codes (tx : Tx) : ∀ (os : List (Option Owner)) (c : Counts), ∀ r ∈ (deliverFrom tx c os).2, r = 250 ∨ r = 550 ∨ r = 554
  | [], _, r, h => by simp [deliverFrom] at h
  | o :: os, c, r, h => by
    simp only [deliverFrom, List.mem_cons] at h
    rcases h with h | h
    · subst h
      fun_cases attempt tx c o <;> simp
    · exact deliverFrom_codes tx os _ r h

/-- a refused transaction in closed form: nothing is stored, every recipient is answered 554 -/
theorem deliverFrom_invalid (tx : Tx) (h : tx.valid = false) : ∀ (os : List (Option Owner)) (c : Counts),
    deliverFrom tx c os = (c, os.map fun _ => 554)
  | [], _ => rfl
  | o :: os, c => by simp [deliverFrom, attempt, h, deliverFrom_invalid tx h os]

/-- the branches of `ParseMIMEMessage`, for the number of part rows a stored message has -/
inductive Ct where
  | single                  -- not multipart, or an unparsable Content-Type (read as text/plain)
  | multipart (children : Nat)   -- multipart/* with a boundary parameter: the container row plus what the reader yields
  | multipartNoBoundary     -- multipart/* without a usable boundary: stored as one part holding the whole body

def partRows : Ct → Nat
  | .single => 1
  | .multipart n => 1 + n
  | .multipartNoBoundary => 1

end Raven.Deliver
