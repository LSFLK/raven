import RavenModel.Model.Mail
/-! The selected-state part of an IMAP session over one store: which mailbox is selected and whether it was opened
with EXAMINE (`ClientState.SelectedMailboxID`, `ReadOnly`). -/
namespace Raven.Mail
open Raven

structure Sel where
  box : Bytes
  readOnly : Bool
deriving Repr, DecidableEq

inductive Cmd where
  | select (box : Bytes)
  | examine (box : Bytes)
  | store (new : List Bytes) (mode : Flags.Mode) (ranks : List Nat)
  | uidStore (new : List Bytes) (mode : Flags.Mode) (uids : List Nat)
  | expunge
  | uidExpunge (uids : List Nat)
  | close
  | unselect

/-- one selected-state command; `Res.no` for "nothing selected", "[READ-ONLY]" and a failed SELECT -/
def sessStep (s : Store) (sel : Option Sel) : Cmd → Store × Option Sel × Res
  | .select b => if s.has b then (s, some ⟨b, false⟩, .ok) else (s, none, .no)
  | .examine b => if s.has b then (s, some ⟨b, true⟩, .ok) else (s, none, .no)
  | .store new mode ranks =>
    match sel with
    | none => (s, sel, .no)
    | some x => if x.readOnly then (s, sel, .no) else
        if ranks.isEmpty then (s, sel, .bad) else ((s.storeSeq x.box new mode ranks).1, sel, .ok)
  | .uidStore new mode uids =>
    match sel with
    | none => (s, sel, .no)
    | some x => if x.readOnly then (s, sel, .no) else ((s.storeUid x.box new mode uids).1, sel, .ok)
  | .expunge =>
    match sel with
    | none => (s, sel, .no)
    | some x => if x.readOnly then (s, sel, .no) else ((s.expunge x.box).1, sel, .ok)
  | .uidExpunge uids =>
    match sel with
    | none => (s, sel, .no)
    | some x => if x.readOnly then (s, sel, .no) else ((s.uidExpunge x.box uids).1, sel, .ok)
  | .close =>
    match sel with
    | none => (s, sel, .no)
    | some x => if x.readOnly then (s, none, .ok) else ((s.expunge x.box).1, none, .ok)
  | .unselect =>
    match sel with
    | none => (s, sel, .no)
    | some _ => (s, none, .ok)

def sessRun (s : Store) (sel : Option Sel) : List Cmd → Store × Option Sel
  | [] => (s, sel)
  | c :: cs => let r := sessStep s sel c; sessRun r.1 r.2.1 cs

def roSel : Option Sel → Bool
  | none => true
  | some x => x.readOnly

def Cmd.isSelect : Cmd → Bool
  | .select _ => true
  | _ => false

theorem sessStep_ro (s : Store) (sel : Option Sel) (c : Cmd) (hro : roSel sel = true) (hc : c.isSelect = false) :
    (sessStep s sel c).1 = s ∧ roSel (sessStep s sel c).2.1 = true := by
  -- every branch that touches the store or selects read-write sits behind `readOnly = false` or is SELECT
  fun_cases sessStep s sel c <;> simp_all [roSel, Cmd.isSelect]

theorem sessRun_ro (s : Store) (sel : Option Sel) (cs : List Cmd) (hro : roSel sel = true)
    (hc : ∀ c ∈ cs, c.isSelect = false) : (sessRun s sel cs).1 = s := by
  induction cs generalizing s sel with
  | nil => rfl
  | cons c cs ih =>
    have h := sessStep_ro s sel c hro (hc c (by simp))
    simp only [sessRun]
    rw [ih _ _ h.2 (fun c' hc' => hc c' (by simp [hc']))]
    exact h.1

end Raven.Mail
