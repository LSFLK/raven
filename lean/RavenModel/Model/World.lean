import RavenModel.Model.Proto
import RavenModel.Model.Mail
/-! Several stores (one per user, one per role mailbox) and which of them a session's command may reach (C05). -/
namespace Raven.World
open Raven Raven.Gen Raven.Mail

inductive Owner where
  | user (id : Nat)
  | role (id : Nat)
deriving Repr, DecidableEq

structure World where
  store : Owner → Store

def World.update (w : World) (o : Owner) (f : Store → Store) : World :=
  { store := fun o' => if o' = o then f (w.store o') else w.store o' }

theorem update_frame (w : World) (o o' : Owner) (f : Store → Store) (h : o' ≠ o) : (w.update o f).store o' = w.store o' := by
  simp [World.update, h]

theorem update_same (w : World) (o : Owner) (f : Store → Store) : (w.update o f).store o = f (w.store o) := by
  simp [World.update]

structure Sess where
  uid : Nat
  sel : Option (Owner × Bytes)      -- owner and mailbox chosen by the last successful SELECT / EXAMINE
deriving Repr

/-- which store an accessor call opens: `GetSelectedDB(state)` the selected owner's, `GetUserDB(state.UserID)` the
session user's; the shared database holds no mailbox -/
def ownerOf (sess : Sess) : Kind → Option Owner
  | .selected => sess.sel.map (·.1)
  | .user => some (.user sess.uid)
  | .userOther => none
  | .shared => none
  | .role => none

structure Dir where
  roleOf : Bytes → Option Nat            -- enabled role mailbox with this address
  assigned : Nat → Nat → Bool            -- user, role

def rolesPrefix : Bytes := b!"Roles/"

/-- SELECT / EXAMINE of a path: `Roles/<address>/<mailbox>` opens that role mailbox's store iff the role exists and is
assigned to the user at this moment; any other name is the user's own (`HandleSelect`) -/
def selectTarget (dir : Dir) (uid : Nat) (path : Bytes) : Option (Owner × Bytes) :=
  if GoStr.hasPrefix path rolesPrefix then
    match GoStr.splitOn b_slash path with
    | _ :: addr :: m :: rest =>
      match dir.roleOf addr with
      | none => none
      | some r => if dir.assigned uid r then some (.role r, GoStr.joinWith b_slash (m :: rest)) else none
    | _ => none
  else some (.user uid, path)

theorem select_authorised (dir : Dir) (uid : Nat) (path : Bytes) (o : Owner) (m : Bytes)
    (h : selectTarget dir uid path = some (o, m)) :
    o = .user uid ∨ ∃ r, o = .role r ∧ dir.assigned uid r = true := by
  revert h
  fun_cases selectTarget dir uid path <;> intro h <;> cases h
  · exact .inr ⟨_, rfl, ‹_›⟩
  · exact .inl rfl

/-! ## the connection: who is logged in and what that identity selected

Events of one connection as the dispatcher sees them. The directory of role assignments changes under the session's feet
(`assign`), the session itself logs in, selects and unselects. `Conn.sel` remembers, next to the selection, the directory
as it was at the moment of the SELECT (a ghost: the code keeps only the ids). -/
inductive CEv where
  | login (uid : Nat) (ok : Bool)        -- LOGIN / AUTHENTICATE with the backend's verdict
  | select (path : Bytes)                -- SELECT / EXAMINE
  | unselect                             -- CLOSE / UNSELECT
  | assign (dir : Dir)                   -- the administrator changes assignments: the directory is now `dir`

structure Conn where
  uid : Option Nat                               -- none: not authenticated
  sel : Option (Owner × Bytes × Dir)             -- the selection and the directory it was made under
  dir : Dir

/-- `strict = true`: LOGIN is refused once the connection is authenticated (RFC 3501: valid only in the not-authenticated
state) — the code as repaired. `strict = false`: what the code did before: a second successful LOGIN replaces the identity
and leaves the selection of the first in place. -/
def cstep (strict : Bool) (c : Conn) : CEv → Conn
  | .login u ok =>
    match c.uid with
    | none => if ok then { c with uid := some u } else c
    | some _ => if strict then c else (if ok then { c with uid := some u } else c)
  | .select path =>
    match c.uid with
    | none => c
    | some u =>
      match selectTarget c.dir u path with
      | some (o, m) => { c with sel := some (o, m, c.dir) }
      | none => { c with sel := none }            -- a failed SELECT leaves nothing selected
  | .unselect => { c with sel := none }
  | .assign d => { c with dir := d }

def crun (strict : Bool) (c : Conn) : List CEv → Conn
  | [] => c
  | e :: es => crun strict (cstep strict c e) es

/-- the selection belongs to the identity the connection holds now: its own store, or a role store assigned to it when it
selected; and nothing is selected on a connection nobody is logged in on -/
def ConnOK (c : Conn) : Prop :=
  match c.sel with
  | none => True
  | some (o, _, d) => ∃ u, c.uid = some u ∧ (o = .user u ∨ ∃ r, o = .role r ∧ d.assigned u r = true)

theorem cstep_ok (c : Conn) (e : CEv) (h : ConnOK c) : ConnOK (cstep true c e) := by
  cases e with
  | login u ok =>
    cases hu : c.uid with
    | some v => simpa only [cstep, hu, if_true] using h
    | none =>
      -- nobody is logged in, so nothing is selected, and a login selects nothing
      cases hs : c.sel with
      | none => cases ok <;> simp [cstep, hu, ConnOK, hs]
      | some x => simp [ConnOK, hs, hu] at h
  | select path =>
    cases hu : c.uid with
    | none => simpa only [cstep, hu] using h
    | some u =>
      cases ht : selectTarget c.dir u path with
      | none => simp [cstep, hu, ht, ConnOK]
      | some x => simp only [cstep, hu, ht]; exact ⟨u, rfl, select_authorised c.dir u path x.1 x.2 ht⟩
  | unselect => trivial
  | assign d => exact h

theorem crun_ok (c : Conn) (es : List CEv) (h : ConnOK c) : ConnOK (crun true c es) := by
  induction es generalizing c with
  | nil => exact h
  | cons e es ih => exact ih _ (cstep_ok c e h)

def Conn.fresh (d : Dir) : Conn := { uid := none, sel := none, dir := d }

end Raven.World
