import RavenModel.Base.GoStr
/-! The LMTP session (internal/delivery/lmtp/session.go) and the DATA reader (parser.ReadDataCommand) as one machine
that consumes the byte stream line by line (`bufio.Reader.ReadString('\n')`). -/
namespace Raven.Lmtp
open Raven Raven.GoStr

/-- split at LF, every line keeping its LF; an unterminated tail is dropped (ReadString returns an error) -/
def linesAux : Bytes → Bytes → List Bytes
  | _, [] => []
  | cur, c :: cs => if c = b_lf then (cur.reverse ++ [c]) :: linesAux [] cs else linesAux (c :: cur) cs
def lines (s : Bytes) : List Bytes := linesAux [] s

def isTerm (l : Bytes) : Bool := l == [b_dot, b_cr, b_lf] || l == [b_dot, b_lf]

/-- `strings.HasPrefix(line, "..")` → drop one dot -/
def unstuff : Bytes → Bytes
  | a :: b :: r => if a = b_dot ∧ b = b_dot then b :: r else a :: b :: r
  | l => l

structure Cfg where
  maxSize : Nat
  maxRcpt : Nat
deriving Repr

/-- what the environment decides about a completed message: is it parsable (ParseMessage + ValidateMessage), and is
the delivery to a recipient successful -/
structure Env where
  accept : Bytes → Bool
  deliver : Bytes → Bytes → Bool

inductive Mode where
  | cmd
  | data (acc : Bytes) (size : Nat) (tooLarge : Bool)
deriving Repr, DecidableEq

structure St where
  helo : Bytes
  mailFrom : Bytes
  rcpts : List Bytes
  mode : Mode
  quit : Bool
deriving Repr, DecidableEq

def St.init : St := { helo := [], mailFrom := [], rcpts := [], mode := .cmd, quit := false }

abbrev Reply := Nat   -- the reply code; LHLO's five-line answer is five 250s

def fromPrefix : Bytes := b!"FROM:"
def toPrefix : Bytes := b!"TO:"

def trimLt (s : Bytes) : Bytes := match s with | 60 :: r => r | _ => s
def trimGt (s : Bytes) : Bytes := if s.getLast? = some 62 then s.dropLast else s

/-- `parseMailFrom`: prefix compared case-insensitively, stripped by length; brackets; first blank-separated field -/
def parseMailFrom (args0 : Bytes) : Option Bytes :=
  let args := trimSpace args0
  if !hasPrefix (toUpper args) fromPrefix then none
  else
    let a := trimGt (trimLt (trimSpace (args.drop 5)))
    match fields a with
    | p :: _ => some p
    | [] => some a

/-- `parseRcptTo`: as above; ESMTP parameters after the address are dropped; the domain is put in lower case -/
def parseRcptTo (args0 : Bytes) : Option Bytes :=
  let args := trimSpace args0
  if !hasPrefix (toUpper args) toPrefix then none
  else
    let a := trimSpace (args.drop 3)
    let a := match fields a with | p :: _ => p | [] => a
    some (lowerDomain (trimGt (trimLt a)))

/-- `strings.SplitN(line, " ", 2)` -/
def splitCmd : Bytes → Bytes × Bytes
  | [] => ([], [])
  | c :: cs => if c = b_sp then ([], cs) else let (a, b) := splitCmd cs; (c :: a, b)

def reset (st : St) : St := { st with mailFrom := [], rcpts := [], mode := .cmd }

/-- one reply per accepted recipient, in RCPT order -/
def endOfData (env : Env) (st : St) (msg : Option Bytes) : St × List Reply :=
  match msg with
  | none => (reset st, st.rcpts.map (fun _ => 554))                      -- over-size: rejectTransaction
  | some m =>
    if env.accept m then (reset st, st.rcpts.map (fun r => if env.deliver m r then 250 else 550))
    else (reset st, st.rcpts.map (fun _ => 554))                          -- unparsable: rejectTransaction

def stepCmd (cfg : Cfg) (st : St) (line0 : Bytes) : St × List Reply :=
  let line := trimSpace line0
  if line = [] then (st, [])
  else
    let (c, args) := splitCmd line
    let cmd := toUpper c
    if cmd = b!"LHLO" then
      if args = [] then (st, [501]) else ({ st with helo := args }, [250, 250, 250, 250, 250])
    else if cmd = b!"MAIL" then
      if st.helo = [] then (st, [503])
      else if st.mailFrom ≠ [] then (st, [503])
      else match parseMailFrom args with
        | none => (st, [501])
        | some f => ({ st with mailFrom := f }, [250])
    else if cmd = b!"RCPT" then
      if st.mailFrom = [] then (st, [503])
      else if st.rcpts.length ≥ cfg.maxRcpt then (st, [452])
      else match parseRcptTo args with
        | none => (st, [501])
        | some t => ({ st with rcpts := st.rcpts ++ [t] }, [250])
    else if cmd = b!"DATA" then
      if st.mailFrom = [] then (st, [503])
      else if st.rcpts = [] then (st, [503])
      else ({ st with mode := .data [] 0 false }, [354])
    else if cmd = b!"RSET" then (reset st, [250])
    else if cmd = b!"NOOP" then (st, [250])
    else if cmd = b!"QUIT" then ({ st with quit := true }, [221])
    else if cmd = b!"VRFY" then (st, [252])
    else if cmd = b!"HELP" then (st, [214])
    else (st, [500])

def stepLine (cfg : Cfg) (env : Env) (st : St) (line : Bytes) : St × List Reply :=
  if st.quit then (st, [])
  else match st.mode with
    | .cmd => stepCmd cfg st line
    | .data acc size tooLarge =>
      if isTerm line then endOfData env st (if tooLarge then none else some acc)
      else if tooLarge then (st, [])                                        -- discarded up to the terminator
      else
        let l := unstuff line
        let size' := size + l.length
        if size' > cfg.maxSize then ({ st with mode := .data [] size' true }, [])
        else ({ st with mode := .data (acc ++ l) size' false }, [])

def runLines (cfg : Cfg) (env : Env) : St → List Bytes → St × List Reply
  | st, [] => (st, [])
  | st, l :: ls =>
    let (st1, r1) := stepLine cfg env st l
    let (st2, r2) := runLines cfg env st1 ls
    (st2, r1 ++ r2)

/-- the whole session on a byte stream: greeting, then the replies -/
def run (cfg : Cfg) (env : Env) (input : Bytes) : List Reply := 220 :: (runLines cfg env St.init (lines input)).2

/-- the client's side of SMTP transparency (RFC 5321 §4.5.2) -/
def stuffLine : Bytes → Bytes
  | a :: r => if a = b_dot then b_dot :: a :: r else a :: r
  | [] => []
def stuff (body : List Bytes) : List Bytes := body.map stuffLine

theorem unstuff_stuff (l : Bytes) : unstuff (stuffLine l) = l := by
  fun_cases stuffLine l
  · simp [unstuff, *]
  · rename_i a r h; cases r <;> simp [unstuff, h]
  · rfl

theorem stuff_not_term (l : Bytes) : isTerm (stuffLine l) = false := by
  fun_cases stuffLine l
  · rfl
  · simp [isTerm, *]
  · rfl

/-- beyond the size limit the reader still consumes through the terminator (nothing of the message reaches the
command interpreter) and answers once per recipient -/
theorem oversize_in_step (cfg : Cfg) (env : Env) (st : St) (ls : List Bytes) (term : Bytes) (size : Nat)
    (hq : st.quit = false) (hm : st.mode = .data [] size true)
    (hnt : ∀ l ∈ ls, isTerm l = false) (hterm : isTerm term = true) :
    runLines cfg env st (ls ++ [term]) = endOfData env st none := by
  induction ls with
  | nil => simp [runLines, stepLine, hq, hm, hterm]
  | cons l rest ih =>
    have h1 : isTerm l = false := hnt l (by simp)
    simp only [List.cons_append, runLines, stepLine, hq, hm, h1, Bool.false_eq_true, if_false, if_true, List.nil_append]
    exact ih (fun x hx => hnt x (by simp [hx]))

/-- **the DATA phase**: up to the terminator nothing is answered and no line reaches the command interpreter, whatever the
lines contain; the message handed on is the unstuffed lines joined, or nothing if they pass the limit at any point (sizes
only grow, so that shows at the end) -/
theorem data_phase (cfg : Cfg) (env : Env) (st : St) (ls : List Bytes) (term : Bytes) (acc : Bytes) (size : Nat)
    (hq : st.quit = false) (hm : st.mode = .data acc size false) (hs : size ≤ cfg.maxSize)
    (hnt : ∀ l ∈ ls, isTerm l = false) (hterm : isTerm term = true) :
    runLines cfg env st (ls ++ [term]) = endOfData env st
      (if size + ((ls.map unstuff).flatten).length ≤ cfg.maxSize then some (acc ++ (ls.map unstuff).flatten) else none) := by
  induction ls generalizing st acc size with
  | nil => simp [runLines, stepLine, hq, hm, hterm, hs]
  | cons l ls ih =>
    have hnt' := fun x hx => hnt x (List.mem_cons_of_mem _ hx)
    simp only [List.cons_append, runLines, stepLine, hq, hm, hnt l (List.mem_cons_self ..), Bool.false_eq_true, if_false,
      List.map_cons, List.flatten_cons, List.length_append, ← Nat.add_assoc, ← List.append_assoc]
    by_cases hc : size + (unstuff l).length ≤ cfg.maxSize
    · rw [if_neg (Nat.not_lt.2 hc), ih _ _ _ rfl rfl hc hnt']
      simp [endOfData, reset, hq]
    · rw [if_pos (Nat.lt_of_not_le hc), oversize_in_step cfg env _ ls term _ rfl rfl hnt' hterm, if_neg (by omega)]
      simp [endOfData, reset, hq]

/-- the DATA phase passes every body through exactly and returns to command mode at the terminator: none of the
body's lines is ever handed to the command interpreter, whatever they contain -/
theorem data_transparent (cfg : Cfg) (env : Env) (st : St) (body : List Bytes) (term : Bytes) (acc : Bytes) (size : Nat)
    (hq : st.quit = false) (hm : st.mode = .data acc size false) (hterm : isTerm term = true)
    (hsize : size + (body.flatten).length ≤ cfg.maxSize) :
    runLines cfg env st (stuff body ++ [term]) = endOfData env st (some (acc ++ body.flatten)) := by
  have hb : (stuff body).map unstuff = body := by simp [stuff, Function.comp_def, unstuff_stuff]
  rw [data_phase cfg env st _ term acc size hq hm (by omega) (by simp [stuff, stuff_not_term]) hterm, hb, if_pos hsize]

theorem endOfData_fst (env : Env) (st : St) (msg : Option Bytes) : (endOfData env st msg).1 = reset st := by
  fun_cases endOfData env st msg <;> rfl

/-- exactly one reply per accepted recipient, whatever the message; and the session is ready for the next transaction -/
theorem endOfData_replies (env : Env) (st : St) (msg : Option Bytes) :
    (endOfData env st msg).2.length = st.rcpts.length ∧
    (endOfData env st msg).1.mailFrom = [] ∧ (endOfData env st msg).1.rcpts = [] ∧ (endOfData env st msg).1.mode = .cmd := by
  rw [endOfData_fst]
  refine ⟨?_, rfl, rfl, rfl⟩
  fun_cases endOfData env st msg <;> exact List.length_map _

/-- recipients exist only after an accepted MAIL, a sender only after LHLO, the DATA phase only with at least one
accepted recipient, and never more recipients than the limit -/
structure WF (cfg : Cfg) (st : St) : Prop where
  mailAfterHelo : st.mailFrom ≠ [] → st.helo ≠ []
  rcptAfterMail : st.rcpts ≠ [] → st.mailFrom ≠ []
  dataAfterRcpt : st.mode ≠ .cmd → st.rcpts ≠ []
  limit : st.rcpts.length ≤ cfg.maxRcpt

theorem wf_reset (cfg : Cfg) (st : St) : WF cfg (reset st) := by constructor <;> simp [reset]

theorem wf_init (cfg : Cfg) : WF cfg St.init := wf_reset cfg St.init

/-- what a command line may do to the session: nothing, or one of six changes, each behind its guard.
(Of the leaves of `stepCmd` all but six return `st`; those six come in the order of its text.) -/
theorem stepCmd_cases (cfg : Cfg) (st : St) (line : Bytes) {P : St → Prop} (same : P st)
    (lhlo : ∀ a, a ≠ [] → P { st with helo := a })
    (mail : ∀ f, st.helo ≠ [] → st.mailFrom = [] → P { st with mailFrom := f })
    (rcpt : ∀ t, st.mailFrom ≠ [] → st.rcpts.length < cfg.maxRcpt → P { st with rcpts := st.rcpts ++ [t] })
    (data : st.mailFrom ≠ [] → st.rcpts ≠ [] → P { st with mode := .data [] 0 false })
    (rset : P (reset st)) (quit : P { st with quit := true }) : P (stepCmd cfg st line).1 := by
  fun_cases stepCmd cfg st line
  all_goals try exact same
  · exact lhlo _ ‹_›
  · exact mail _ ‹_› (Decidable.not_not.1 ‹_›)
  · exact rcpt _ ‹_› (Nat.lt_of_not_ge ‹_›)
  · exact data ‹_› ‹_›
  · exact rset
  · exact quit

theorem wf_stepCmd (cfg : Cfg) (st : St) (line : Bytes) (h : WF cfg st) : WF cfg (stepCmd cfg st line).1 :=
  have ⟨h1, h2, h3, h4⟩ := h
  stepCmd_cases cfg st line (same := h)
    (lhlo := fun _ ha => ⟨fun _ => ha, h2, h3, h4⟩)
    (mail := fun _ hh hmf => ⟨fun _ => hh, fun hr => absurd hmf (h2 hr), h3, h4⟩)
    (rcpt := fun _ hmf hlim => ⟨h1, fun _ => hmf, fun _ => by simp, by rw [List.length_append]; exact hlim⟩)
    (data := fun _ hr => ⟨h1, h2, fun _ => hr, h4⟩)
    (rset := wf_reset cfg st) (quit := ⟨h1, h2, h3, h4⟩)

theorem wf_stepLine (cfg : Cfg) (env : Env) (st : St) (line : Bytes) (h : WF cfg st) : WF cfg (stepLine cfg env st line).1 := by
  -- the leaves of `stepLine` in the order of its text: quit, a command line, the terminator, a discarded line, a body line
  -- over / within the limit
  fun_cases stepLine cfg env st line
  case case2 => exact wf_stepCmd cfg st line h
  case case3 => rw [endOfData_fst]; exact wf_reset cfg st
  -- a body line changes the mode only, from one `.data` to another
  case case5 hm _ _ _ _ _ | case6 hm _ _ _ _ _ => exact ⟨h.1, h.2, fun _ => h.3 (hm ▸ nofun), h.4⟩
  all_goals exact h

theorem wf_runLines (cfg : Cfg) (env : Env) (st : St) (ls : List Bytes) (h : WF cfg st) : WF cfg (runLines cfg env st ls).1 := by
  induction ls generalizing st with
  | nil => exact h
  | cons l rest ih => simp only [runLines]; exact ih _ (wf_stepLine cfg env st l h)

end Raven.Lmtp
