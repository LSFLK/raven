import RavenModel.Base.Dec
import RavenModel.Base.GoStr
/-! Sequence-set and UID-set parsers of internal/server/utils/parser.go, the RFC 3501 denotation of a set,
and the proofs that the parsers return exactly the denoted messages (C09.1). -/
namespace Raven.SeqSet
open Raven Raven.Dec Raven.GoStr

/-! ## the specification: RFC 3501 `sequence-set` -/
inductive End where | num (n : Nat) | star
deriving Repr, DecidableEq
inductive Item where | one (e : End) | rng (a b : End)
deriving Repr, DecidableEq

/-- value of an endpoint when the largest number in use is `top` -/
def End.val (top : Nat) : End → Nat
  | .num n => n
  | .star => top
def End.print : End → Bytes
  | .num n => Dec.print n
  | .star => [b_star]
def Item.print : Item → Bytes
  | .one e => e.print
  | .rng a b => a.print ++ b_colon :: b.print
def printSet (s : List Item) : Bytes := joinWith b_comma (s.map Item.print)

/-- RFC 3501: `n` is one number, `a:b` is every number between the two endpoints in either order -/
def Item.covers (top : Nat) (n : Nat) : Item → Prop
  | .one e => n = e.val top
  | .rng a b => min (a.val top) (b.val top) ≤ n ∧ n ≤ max (a.val top) (b.val top)

instance (top n : Nat) (i : Item) : Decidable (i.covers top n) := by
  cases i <;> unfold Item.covers <;> infer_instance

def denotes (s : List Item) (top n : Nat) : Prop := ∃ i ∈ s, i.covers top n

/-- well-formed: numbers are non-zero and fit IMAP's 32 bits (we only need `< 2^63`) -/
def End.ok : End → Prop
  | .num n => 0 < n ∧ n < 9223372036854775808
  | .star => True
def Item.ok : Item → Prop
  | .one e => e.ok
  | .rng a b => a.ok ∧ b.ok

/-! ## `ParseSequenceSetWithDB` (message sequence numbers; `total` = COUNT of the mailbox) -/
def range (lo hi : Nat) : List Nat := (List.range (hi + 1 - lo)).map (· + lo)

theorem mem_range (lo hi n : Nat) : n ∈ range lo hi ↔ lo ≤ n ∧ n ≤ hi := by
  have : range lo hi = List.range' lo (hi + 1 - lo) := by
    simp only [range, List.range'_eq_map_range, Nat.add_comm]
  rw [this, List.mem_range'_1]; omega

def parsePart (total : Nat) (part0 : Bytes) : List Nat :=
  let part := trimSpace part0
  if part.contains b_colon then
    match splitOn b_colon part with
    | [a, b] =>
      match atoiGo a, atoiGo b with
      | some x, some y =>
        if 0 < x ∧ 0 < y then range (min x.toNat y.toNat) (min (max x.toNat y.toNat) total) else []
      | _, _ => []
    | _ => []
  else
    match atoiGo part with
    | some n => if 0 < n ∧ n ≤ (total : Int) then [n.toNat] else []
    | none => []

/-- `strings.ReplaceAll(s, "*", fmt.Sprintf("%d", total))` -/
def replaceStar (total : Nat) (s : Bytes) : Bytes := s.flatMap (fun c => if c = b_star then Dec.print total else [c])

def parseSeq (s : Bytes) (total : Nat) : List Nat :=
  if total = 0 then [] else (splitOn b_comma (replaceStar total s)).flatMap (parsePart total)

/-! ## `ParseUIDSequenceSetWithDB` (`uids` = the mailbox's UIDs in ascending order) -/
def maxOf (l : List Nat) : Nat := l.foldl max 0

/-- `strconv.Atoi` with the error ignored: 0 on syntax errors -/
def atoiOr0 (s : Bytes) : Int := (atoiGo s).getD 0

def uidEnd (mx : Nat) (s : Bytes) : Int := if s = [b_star] then (mx : Int) else atoiOr0 s

def parseUidPart (uids : List Nat) (mx : Nat) (part0 : Bytes) : List Nat :=
  let part := trimSpace part0
  if part = [b_star] then [mx]
  else if part.contains b_colon then
    match splitOn b_colon part with
    | [a, b] =>
      let x := uidEnd mx a
      let y := uidEnd mx b
      let lo := min x y
      let hi := max x y
      uids.filter (fun u => lo ≤ (u : Int) ∧ (u : Int) ≤ hi)
    | _ => []
  else
    match atoiGo part with
    | some n => if uids.any (fun u => (u : Int) = n) then [n.toNat] else []
    | none => []

def parseUid (s : Bytes) (uids : List Nat) : List Nat :=
  let mx := maxOf uids
  if mx = 0 then [] else (splitOn b_comma s).flatMap (parseUidPart uids mx)

/-! ## FETCH's syntactic validation (each bound is `*` or a positive number, at most one colon per item) -/
def fetchBoundOk (b : Bytes) : Bool :=
  b = [b_star] || (match atoiGo b with | some n => decide (1 ≤ n) | none => false)
def fetchSetOk (s : Bytes) : Bool :=
  (splitOn b_comma s).all (fun part =>
    let bs := splitOn b_colon part
    decide (bs.length ≤ 2) && bs.all fetchBoundOk)

theorem digit_ne (c : UInt8) (h : isDigit c = true) : c ≠ b_comma ∧ c ≠ b_colon ∧ c ≠ b_star ∧ isSpace c = false := by
  have h48 : (48 : UInt8) ≤ c := by
    simp only [isDigit, Bool.and_eq_true, decide_eq_true_eq] at h; exact h.1
  have h13 : ¬ c ≤ 13 := fun h' => absurd (UInt8.le_trans h48 h') (by decide)
  have h32 : c ≠ 32 := by rintro rfl; exact absurd h48 (by decide)
  refine ⟨?_, ?_, ?_, by simp [isSpace, h13, h32]⟩ <;> (rintro rfl; exact absurd h (by decide))

theorem trimLeftP_id (p : UInt8 → Bool) (s : Bytes) (h : ∀ c ∈ s, p c = false) : trimLeftP p s = s := by
  cases s with
  | nil => rfl
  | cons c cs => simp [trimLeftP, h c]

theorem trimSpace_id (s : Bytes) (h : ∀ c ∈ s, isSpace c = false) : trimSpace s = s := by
  rw [trimSpace, trimP, trimRightP, trimLeftP_id _ s h, trimLeftP_id _ _ (fun c hc => h c (List.mem_reverse.mp hc)),
    List.reverse_reverse]

/-! `printSet` writes `*` for the open endpoint; `parseSeq` first replaces every `*` by the digits of the total. Both texts are
`Item.text st` for the way `st` the star is written, and all that the parsers need of `st` is that it is `Plain`. -/
def End.text (st : Bytes) : End → Bytes
  | .num n => Dec.print n
  | .star => st
def Item.text (st : Bytes) : Item → Bytes
  | .one e => e.text st
  | .rng a b => a.text st ++ b_colon :: b.text st

theorem Item.print_eq_text (i : Item) : i.print = i.text [b_star] := rfl

def Plain (s : Bytes) : Prop := ∀ c ∈ s, c ≠ b_comma ∧ c ≠ b_colon ∧ isSpace c = false

theorem plain_print (n : Nat) : Plain (Dec.print n) := fun c hc =>
  have h := digit_ne c (print_digits n c hc)
  ⟨h.1, h.2.1, h.2.2.2⟩
theorem plain_star : Plain [b_star] := by
  intro c hc; cases List.mem_singleton.mp hc; decide

theorem End.text_plain {st : Bytes} (hst : Plain st) : ∀ e : End, Plain (e.text st)
  | .num n => plain_print n
  | .star => hst

theorem Plain.clean {s : Bytes} (h : Plain s) : ∀ c ∈ s, c ≠ b_comma ∧ isSpace c = false :=
  fun c hc => ⟨(h c hc).1, (h c hc).2.2⟩

theorem Item.text_clean {st : Bytes} (hst : Plain st) : ∀ i : Item, ∀ c ∈ i.text st, c ≠ b_comma ∧ isSpace c = false
  | .one e => (e.text_plain hst).clean
  | .rng a b => List.forall_mem_append.2 ⟨(a.text_plain hst).clean, List.forall_mem_cons.2 ⟨by decide, (b.text_plain hst).clean⟩⟩

theorem Item.text_trim {st : Bytes} (hst : Plain st) (i : Item) : trimSpace (i.text st) = i.text st :=
  trimSpace_id _ (fun c hc => (i.text_clean hst c hc).2)

theorem End.text_nocolon {st : Bytes} (hst : Plain st) (e : End) : (e.text st).contains b_colon = false := by
  rw [Bool.eq_false_iff]
  exact fun h => (e.text_plain hst _ (List.contains_iff_mem.mp h)).2.1 rfl

theorem rng_colon (x y : Bytes) : (x ++ b_colon :: y).contains b_colon = true :=
  List.contains_iff_mem.mpr (by simp)

theorem rng_split {st : Bytes} (hst : Plain st) (a b : End) :
    splitOn b_colon (a.text st ++ b_colon :: b.text st) = [a.text st, b.text st] := by
  rw [splitOn_nosep_sep _ _ _ (fun c hc => (a.text_plain hst c hc).2.1),
      splitOn_nosep _ _ (fun c hc => (b.text_plain hst c hc).2.1)]

/-- the step from one item to the set, for either parser `f` and whatever else `D` it demands of `n` -/
theorem mem_parts {st : Bytes} (hst : Plain st) (s : List Item) (hne : s ≠ []) (f : Bytes → List Nat) (top n : Nat)
    (D : Prop) (hf : ∀ i ∈ s, (n ∈ f (i.text st) ↔ i.covers top n ∧ D)) :
    n ∈ (splitOn b_comma (joinWith b_comma (s.map (Item.text st)))).flatMap f ↔ denotes s top n ∧ D := by
  rw [splitOn_join b_comma _ (by simpa using hne)
    (by intro p hp; obtain ⟨i, _, rfl⟩ := List.mem_map.mp hp; exact fun c hc => (i.text_clean hst c hc).1),
    List.flatMap_map, List.mem_flatMap]
  constructor
  · rintro ⟨i, hi, hn⟩
    obtain ⟨hc, hd⟩ := (hf i hi).mp hn
    exact ⟨⟨i, hi, hc⟩, hd⟩
  · rintro ⟨⟨i, hi, hc⟩, hd⟩
    exact ⟨i, hi, (hf i hi).mpr ⟨hc, hd⟩⟩

theorem replaceStar_append (t : Nat) (a b : Bytes) : replaceStar t (a ++ b) = replaceStar t a ++ replaceStar t b := by
  simp [replaceStar]
theorem replaceStar_cons (t : Nat) (c : UInt8) (a : Bytes) (hc : c ≠ b_star) : replaceStar t (c :: a) = c :: replaceStar t a := by
  simp [replaceStar, hc]

theorem replaceStar_digits (t : Nat) (a : Bytes) (h : ∀ c ∈ a, isDigit c = true) : replaceStar t a = a := by
  induction a with
  | nil => rfl
  | cons c cs ih =>
    rw [replaceStar_cons t c cs (digit_ne c (h c (by simp))).2.2.1, ih (fun x hx => h x (by simp [hx]))]

theorem replaceStar_end (t : Nat) : ∀ e : End, replaceStar t (e.text [b_star]) = e.text (Dec.print t)
  | .star => by simp [End.text, replaceStar]
  | .num n => replaceStar_digits t _ (print_digits n)

theorem replaceStar_item (t : Nat) : ∀ i : Item, replaceStar t (i.text [b_star]) = i.text (Dec.print t)
  | .one e => replaceStar_end t e
  | .rng a b => by
    simp only [Item.text]
    rw [replaceStar_append, replaceStar_cons t _ _ (by decide), replaceStar_end, replaceStar_end]

theorem replaceStar_join (t : Nat) : ∀ is : List Item,
    replaceStar t (printSet is) = joinWith b_comma (is.map (Item.text (Dec.print t)))
  | [] => rfl
  | [i] => by simp [printSet, joinWith, Item.print_eq_text, replaceStar_item]
  | i :: j :: is => by
    have ih := replaceStar_join t (j :: is)
    simp only [printSet, List.map_cons, joinWith] at ih ⊢
    rw [replaceStar_append, replaceStar_cons t _ _ (by decide), ih, Item.print_eq_text, replaceStar_item]

theorem End.val_ok (t : Nat) (ht : (End.num t).ok) : ∀ e : End, e.ok → (End.num (e.val t)).ok
  | .num _, h => h
  | .star, _ => ht

theorem atoiGo_text (t : Nat) (ht : (End.num t).ok) (e : End) (h : e.ok) :
    atoiGo (e.text (Dec.print t)) = some (e.val t : Int) := by
  cases e with
  | num k => exact atoiGo_print k h.2
  | star => exact atoiGo_print t ht.2

theorem mem_range_clip {x y t n : Nat} (hx : 0 < x) (hy : 0 < y) :
    n ∈ range (min x y) (min (max x y) t) ↔ (min x y ≤ n ∧ n ≤ max x y) ∧ 1 ≤ n ∧ n ≤ t := by
  rw [mem_range, Nat.le_min]
  have : 1 ≤ min x y := Nat.le_min.mpr ⟨hx, hy⟩
  exact ⟨fun ⟨h1, h2, h3⟩ => ⟨⟨h1, h2⟩, Nat.le_trans this h1, h3⟩, fun ⟨⟨h1, h2⟩, _, h3⟩ => ⟨h1, h2, h3⟩⟩

theorem parsePart_item (t : Nat) (ht : (End.num t).ok) (i : Item) (hok : i.ok) (n : Nat) :
    n ∈ parsePart t (i.text (Dec.print t)) ↔ i.covers t n ∧ 1 ≤ n ∧ n ≤ t := by
  have hst := plain_print t
  unfold parsePart
  simp only [i.text_trim hst]
  cases i with
  | one e =>
    simp only [Item.text, e.text_nocolon hst, Bool.false_eq_true, if_false, atoiGo_text t ht e hok, Item.covers,
      List.mem_ite_nil_right, Int.toNat_natCast, List.mem_singleton, Int.natCast_pos, Int.ofNat_le]
    exact ⟨fun ⟨h, e⟩ => ⟨e, e ▸ h⟩, fun ⟨e, h⟩ => ⟨e ▸ h, e⟩⟩
  | rng a b =>
    have ha := (End.val_ok t ht a hok.1).1
    have hb := (End.val_ok t ht b hok.2).1
    simp only [Item.text, rng_colon, if_true, rng_split hst, atoiGo_text t ht a hok.1, atoiGo_text t ht b hok.2,
      Item.covers, Int.toNat_natCast, Int.natCast_pos, ha, hb, and_self, if_true]
    exact mem_range_clip ha hb

/-- **C09.1 (sequence numbers)**: every well-formed set addresses exactly the messages it denotes -/
theorem parseSeq_denotes (s : List Item) (hne : s ≠ []) (hok : ∀ i ∈ s, i.ok) (t n : Nat) (hb : t < 9223372036854775808) :
    n ∈ parseSeq (printSet s) t ↔ denotes s t n ∧ 1 ≤ n ∧ n ≤ t := by
  unfold parseSeq
  by_cases ht : t = 0
  · simp [ht]; omega
  · simp only [ht, if_false]
    rw [replaceStar_join]
    exact mem_parts (plain_print t) s hne _ t n _
      (fun i hi => parsePart_item t ⟨Nat.pos_of_ne_zero ht, hb⟩ i (hok i hi) n)

theorem foldl_max_mem (l : List Nat) (a : Nat) : l.foldl max a = a ∨ l.foldl max a ∈ l := by
  induction l generalizing a with
  | nil => exact Or.inl rfl
  | cons x xs ih =>
    rw [List.foldl_cons, List.mem_cons]
    rcases ih (max a x) with h | h
    · rw [h, Nat.max_def]; split <;> simp
    · exact Or.inr (Or.inr h)

theorem maxOf_mem (l : List Nat) (h : maxOf l ≠ 0) : maxOf l ∈ l :=
  (foldl_max_mem l 0).resolve_left h

theorem print_ne_star (k : Nat) : Dec.print k ≠ [b_star] := by
  intro h
  have := print_digits k b_star (by rw [h]; simp)
  exact absurd this (by decide)

theorem uidEnd_text (mx : Nat) (e : End) (h : e.ok) : uidEnd mx (e.text [b_star]) = (e.val mx : Int) := by
  cases e with
  | num k =>
    simp only [End.text, uidEnd, print_ne_star, if_false, atoiOr0, atoiGo_print _ h.2, Option.getD_some, End.val]
  | star => simp [End.text, uidEnd, End.val]

theorem cast_between (x y n : Nat) : min (x : Int) y ≤ n ∧ (n : Int) ≤ max (x : Int) y ↔ min x y ≤ n ∧ n ≤ max x y := by
  rw [← Lean.Omega.Int.ofNat_min, ← Lean.Omega.Int.ofNat_max, Int.ofNat_le, Int.ofNat_le]

theorem parseUidPart_item (uids : List Nat) (mx : Nat) (hmx : mx ∈ uids) (i : Item) (hok : i.ok) (n : Nat) :
    n ∈ parseUidPart uids mx (i.text [b_star]) ↔ i.covers mx n ∧ n ∈ uids := by
  unfold parseUidPart
  simp only [i.text_trim plain_star]
  cases i with
  | one e =>
    cases e with
    | star =>
      simp only [Item.text, End.text, if_true, List.mem_singleton, Item.covers, End.val]
      exact ⟨fun h => ⟨h, h ▸ hmx⟩, fun h => h.1⟩
    | num k =>
      have hnc : (Dec.print k).contains b_colon = false := (End.num k).text_nocolon plain_star
      simp only [Item.text, End.text, print_ne_star, if_false, hnc, Bool.false_eq_true, atoiGo_print _ hok.2, Item.covers,
        End.val, List.mem_ite_nil_right, List.any_eq_true, decide_eq_true_eq, Int.natCast_inj, exists_eq_right,
        Int.toNat_natCast, List.mem_singleton]
      exact ⟨fun ⟨h, e⟩ => ⟨e, e ▸ h⟩, fun ⟨e, h⟩ => ⟨e ▸ h, e⟩⟩
  | rng a b =>
    have hne : a.text [b_star] ++ b_colon :: b.text [b_star] ≠ [b_star] := fun h =>
      absurd (h ▸ rng_colon (a.text [b_star]) (b.text [b_star])) (by decide)
    simp only [Item.text, hne, if_false, rng_colon, if_true, rng_split plain_star, uidEnd_text mx a hok.1,
      uidEnd_text mx b hok.2, List.mem_filter, decide_eq_true_eq, Item.covers, cast_between]
    exact and_comm

/-- **C09.1 (UIDs)**: a UID set addresses exactly the existing UIDs it denotes (`*` = the largest UID in use) -/
theorem parseUid_denotes (s : List Item) (hne : s ≠ []) (hok : ∀ i ∈ s, i.ok) (uids : List Nat) (n : Nat) :
    n ∈ parseUid (printSet s) uids ↔ n ∈ uids ∧ denotes s (maxOf uids) n ∧ maxOf uids ≠ 0 := by
  unfold parseUid
  simp only []
  by_cases hm : maxOf uids = 0
  · simp [hm]
  · simp only [hm, if_false]
    rw [show printSet s = joinWith b_comma (s.map (Item.text [b_star])) from rfl,
      mem_parts plain_star s hne _ (maxOf uids) n _
        (fun i hi => parseUidPart_item uids _ (maxOf_mem uids hm) i (hok i hi) n)]
    exact ⟨fun ⟨hd, hu⟩ => ⟨hu, hd, hm⟩, fun ⟨hu, hd, _⟩ => ⟨hd, hu⟩⟩
end Raven.SeqSet
