import RavenModel.Model.Mime
/-! The writer's choice of a boundary (`reconstructPartDFS` after the repair a04e0be): the children are rendered first and the
boundary `----=_Part_<Subtype>_<id>` is lengthened (`_0`, `_1`, …) until `boundaryOccursIn` finds no line in them that begins
with `--boundary` followed by the end of the line, white space or `--`.

Here that test is modelled (`flagged`) and proved to be at least as strict as what a reader takes for a delimiter
(`Mime.clean`): a boundary that passes the writer's test satisfies the side condition of `Mime.splitBody_written` for every
part, whatever the parts contain. -/
namespace Raven.Mime
open Raven Raven.GoStr

/-- what may follow `--boundary` on a line for the writer's test to count it: the end of the text, a blank, a tab, a carriage
return, or `--` -/
def afterCounts : Bytes → Bool
  | [] => true
  | 32 :: _ => true
  | 9 :: _ => true
  | 13 :: _ => true
  | 45 :: 45 :: _ => true
  | _ => false

/-- `s` starts with `--boundary` (= `db`) in a way that counts -/
def delimHere (db s : Bytes) : Bool := hasPrefix s db && afterCounts (s.drop db.length)

/-- `boundaryOccursIn` for one rendered part: does a line of it start like a delimiter? (`atStart`: the position is the
beginning of the text or follows a line feed) -/
def flagged (db : Bytes) : Bool → Bytes → Bool
  | _, [] => false
  | atStart, c :: s => (atStart && delimHere db (c :: s)) || flagged db (c == 10) s

theorem classify_isSome {s : Bytes} (h : (classify s).isSome = true) : (∃ r, s = 45 :: 45 :: r) ∨ ∃ r, s = 13 :: 10 :: r := by
  unfold classify at h
  split at h
  · exact .inl ⟨_, rfl⟩
  · exact .inr ⟨_, rfl⟩
  · cases h

/-- what the reader takes for the end of a delimiter the writer's test counts too — also when the reader looks past the line
end behind the part (`y`), which the writer's test does not see -/
theorem afterCounts_of_classify : ∀ (r y : Bytes), (classify (r ++ 13 :: 10 :: y)).isSome = true → afterCounts (r ++ CRLF) = true
  | [], _, _ => rfl
  | [u], y, h => by rcases classify_isSome h with ⟨_, e⟩ | ⟨_, e⟩ <;> cases e
  | u :: v :: r, y, h => by rcases classify_isSome h with ⟨_, e⟩ | ⟨_, e⟩ <;> cases e <;> rfl

/-- the heart of it: where a reader sees a delimiter (`q` = `--boundary`) that begins inside `x`, in front of a line end, the
writer's test sees `x` start like a delimiter line — also when the reader's match ends right at the end of `x` -/
theorem delimHere_of_reader_hit (x y q : Bytes) (hcr : 13 ∉ q) (hp : hasPrefix (x ++ 13 :: 10 :: y) q = true)
    (hc : (classify ((x ++ 13 :: 10 :: y).drop q.length)).isSome = true) : delimHere q (x ++ CRLF) = true := by
  obtain ⟨hlen, hpx⟩ := prefix_within x 13 (10 :: y) q hcr hp
  rw [List.drop_append_of_le_length hlen] at hc
  simp only [delimHere, hasPrefix_append_right x q CRLF hpx, List.drop_append_of_le_length hlen,
    afterCounts_of_classify _ y hc, Bool.and_self]

theorem hitHere_delim {b s : Bytes} (h : hitHere (delim b) s = true) : ∃ s', s = 13 :: 10 :: s' ∧
    hasPrefix s' (DD ++ b) = true ∧ (classify (s'.drop (DD ++ b).length)).isSome = true := by
  have hd : delim b = 13 :: 10 :: (DD ++ b) := rfl
  rw [hitHere, hd, Bool.and_eq_true] at h
  obtain ⟨t, rfl⟩ := (hasPrefix_iff _ _).1 h.1
  -- dropping the delimiter from `13 :: 10 :: (DD ++ b ++ t)` is dropping `DD ++ b` from what follows the line end
  exact ⟨DD ++ b ++ t, rfl, hasPrefix_append _ _, h.2⟩

theorem flagged_cons_false {db : Bytes} {at' : Bool} {c : UInt8} {s : Bytes} (h : flagged db at' (c :: s) = false) :
    (at' && delimHere db (c :: s)) = false ∧ flagged db (c == 10) s = false := by
  simpa [flagged, Bool.or_eq_false_iff] using h

/-- **per position**: where the reader sees a delimiter begin — at a line end inside the part, whatever follows the delimiter
behind the part — the writer's test flags the line that starts behind that line end -/
theorem flagged_of_hit (b : Bytes) (hcr : 13 ∉ b) (c : UInt8) (p t : Bytes) (at' : Bool)
    (hh : hitHere (delim b) (c :: (p ++ (delim b ++ t))) = true) : flagged (DD ++ b) at' (c :: p ++ CRLF) = true := by
  obtain ⟨s', hs, hpre, hcl⟩ := hitHere_delim hh
  cases p with
  | nil => simp [delim, CRLF] at hs
  | cons c2 x =>
    obtain ⟨rfl, rfl, rfl⟩ : c = 13 ∧ c2 = 10 ∧ x ++ (delim b ++ t) = s' := by simpa using hs
    have hd := delimHere_of_reader_hit x (DD ++ b ++ t) (DD ++ b) (by simp [DD, hcr]) hpre hcl
    -- the line behind `13 10` begins a line, and it is not empty: it ends in the part's line end
    obtain ⟨c, s, hcs⟩ : ∃ c s, x ++ CRLF = c :: s := by cases x <;> exact ⟨_, _, rfl⟩
    rw [hcs] at hd
    simp [flagged, hcs, hd]

/-- **the writer's test is at least as strict as the reader**: a part none of whose lines is flagged for boundary `b` is clean
for the delimiter of `b`, whatever follows the delimiter behind it -/
theorem clean_of_not_flagged (b : Bytes) (hcr : 13 ∉ b) : ∀ (core t : Bytes) (at' : Bool),
    flagged (DD ++ b) at' (core ++ CRLF) = false → clean (delim b) core t = true
  | [], _, _, _ => by simp [clean, cleanGo]
  | c :: p, t, at', h => clean_cons.2
    ⟨Bool.eq_false_iff.2 fun hh => absurd (flagged_of_hit b hcr c p t at' hh) (by simpa using h),
      clean_of_not_flagged b hcr p t (c == 10) (flagged_cons_false (by simpa using h)).2⟩

/-- the `n`-th boundary tried for a container: `base`, then `base_0`, `base_1`, … -/
def candidate (base : Bytes) (n : Nat) : Bytes := if n = 0 then base else base ++ [95] ++ Dec.print (n - 1)

def passes (b : Bytes) (ps : List Bytes) : Bool := ps.all (fun p => !flagged (DD ++ b) true (p ++ CRLF))

/-- the lengthening loop: the first candidate (`fuel` tries) that no part is flagged for -/
def chooseBoundary (base : Bytes) (ps : List Bytes) : Nat → Nat → Option Bytes
  | 0, _ => none
  | fuel + 1, n => if passes (candidate base n) ps then some (candidate base n) else chooseBoundary base ps fuel (n + 1)

/-- every part passes the writer's test ⇒ the side condition of `splitBody_written` holds: the reader finds the parts as
written, whatever octets they contain -/
theorem cleanAll_of_passes (b : Bytes) (hcr : 13 ∉ b) : ∀ (ps : List Bytes) (e : Bytes), passes b ps = true →
    cleanAll (delim b) ps e = true
  | [], _, _ => rfl
  | [p], e, h => clean_of_not_flagged b hcr p _ true (by simpa [passes] using h)
  | p :: q :: ps, e, h => by
    rw [passes, List.all_cons, Bool.and_eq_true, Bool.not_eq_true'] at h
    rw [cleanAll, Bool.and_eq_true]
    exact ⟨clean_of_not_flagged b hcr p _ true h.1, cleanAll_of_passes b hcr (q :: ps) e h.2⟩

theorem chooseBoundary_spec (base : Bytes) (ps : List Bytes) : ∀ (fuel n : Nat) (b : Bytes), chooseBoundary base ps fuel n = some b →
    (∃ m, b = candidate base m) ∧ passes b ps = true
  | 0, _, _, h => by simp [chooseBoundary] at h
  | fuel + 1, n, b, h => by
    rw [chooseBoundary] at h
    split at h
    · cases h; exact ⟨⟨n, rfl⟩, ‹_›⟩
    · exact chooseBoundary_spec base ps fuel (n + 1) b h

/-- **the repaired writer**: whatever octets the parts contain, the boundary the writer settles on makes the reader find the
parts exactly as written (the boundary itself contains no carriage return: it is `----=_Part_<Subtype>_<id>[_<n>]`) -/
theorem repaired_writer_parts_read_back (base : Bytes) (ps : List Bytes) (e : Bytes) (fuel : Nat) (b : Bytes)
    (hb : chooseBoundary base ps fuel 0 = some b) (hcr : 13 ∉ b) : splitBody b (joinBody b ps e) = some ps :=
  splitBody_written b ps e (cleanAll_of_passes b hcr ps e (chooseBoundary_spec base ps fuel 0 b hb).2)

/-- what is stored: leaves with their text, containers with their media type and the base of their boundary
(`----=_Part_<Subtype>_<row id>`); the boundaries themselves are chosen when the message is written -/
inductive Src where
  | leaf (text : Bytes) : Src
  | multi (top : Bool) (ctype base : Bytes) (cs : List Src) : Src

mutual
/-- the repaired `reconstructPartDFS`: render the children, settle on a boundary they do not contain, write -/
def assign (fuel : Nat) : Src → Option Tree
  | .leaf t => some (.leaf t)
  | .multi top ctype base cs =>
    match assignList fuel cs with
    | none => none
    | some ts =>
      match chooseBoundary base (coreList ts) fuel 0 with
      | none => none
      | some b => some (.multi (containerHeader top ctype b) b ts)
def assignList (fuel : Nat) : List Src → Option (List Tree)
  | [] => some []
  | s :: ss =>
    match assign fuel s, assignList fuel ss with
    | some t, some ts => some (t :: ts)
    | _, _ => none
end

mutual
/-- no boundary base contains a carriage return (they are `----=_Part_<Subtype>_<id>`) -/
def basesOK : Src → Bool
  | .leaf _ => true
  | .multi _ _ base cs => !base.contains 13 && basesOKList cs
def basesOKList : List Src → Bool
  | [] => true
  | s :: ss => basesOK s && basesOKList ss
end

mutual
/-- the header reader (library code, a parameter) reads every container header as it was written and takes no leaf for a
container -/
def headersRead (K : HeaderReader) : Tree → Bool
  | .leaf t => (K t).isNone
  | .multi h b cs => (K (h ++ joinBody b (coreList cs) []) == some (h, b, joinBody b (coreList cs) [])) && headersReadList K cs
def headersReadList (K : HeaderReader) : List Tree → Bool
  | [] => true
  | t :: ts => headersRead K t && headersReadList K ts
end

theorem candidate_no_cr (base : Bytes) (h : 13 ∉ base) (n : Nat) : 13 ∉ candidate base n := by
  unfold candidate
  split
  · exact h
  · simp only [List.mem_append, List.mem_singleton, not_or]
    exact ⟨⟨h, by decide⟩, fun hm => absurd (Dec.print_digits (n - 1) 13 hm) (by decide)⟩

mutual
/-- what the repaired writer produces satisfies the side condition of the read-back theorem — by construction, whatever the
leaves contain -/
theorem assign_fresh (K : HeaderReader) (fuel : Nat) : ∀ (s : Src) (t : Tree), assign fuel s = some t → basesOK s = true →
    headersRead K t = true → fresh K t = true
  | .leaf x, t, ha, _, hr => by
    cases ha
    simpa [fresh, headersRead] using hr
  | .multi top ctype base cs, t, ha, hb, hr => by
    rw [assign] at ha
    split at ha
    · cases ha
    next ts hts =>
      split at ha
      · cases ha
      next b hcb =>
        cases ha
        simp only [basesOK, Bool.and_eq_true, Bool.not_eq_true', List.contains_eq_mem, decide_eq_false_iff_not] at hb
        simp only [headersRead, Bool.and_eq_true, beq_iff_eq] at hr
        obtain ⟨⟨m, rfl⟩, hpass⟩ := chooseBoundary_spec base (coreList ts) fuel 0 b hcb
        exact fresh_iff.2 ⟨hr.1, cleanAll_of_passes _ (candidate_no_cr base hb.1 m) _ [] hpass,
          assignList_fresh K fuel cs ts hts hb.2 hr.2⟩
theorem assignList_fresh (K : HeaderReader) (fuel : Nat) : ∀ (ss : List Src) (ts : List Tree), assignList fuel ss = some ts →
    basesOKList ss = true → headersReadList K ts = true → freshList K ts = true
  | [], ts, ha, _, _ => by cases ha; rfl
  | s :: ss, ts, ha, hb, hr => by
    rw [assignList] at ha
    split at ha
    next t ts' h1 h2 =>
      cases ha
      simp only [basesOKList, Bool.and_eq_true] at hb
      simp only [headersReadList, Bool.and_eq_true] at hr
      simp only [freshList, Bool.and_eq_true]
      exact ⟨assign_fresh K fuel s t h1 hb.1 hr.1, assignList_fresh K fuel ss ts' h2 hb.2 hr.2⟩
    · cases ha
end

end Raven.Mime
