import RavenModel.Model.ListMatch
import RavenModel.Base.GoStr
/-! `HandleLsub` (internal/server/mailbox/mailbox.go): the subscribed names that match reference + pattern, and — for patterns
with `%` — the *implied parents*: names that are not subscribed themselves but have a subscribed descendant, shown as
`\Noselect` (RFC 3501 6.3.9). The code walks the leading components of every subscription; the specification is the set of
proper ancestors. -/
namespace Raven.Lsub
open Raven Raven.ListMatch Raven.GoStr

def slash : UInt8 := 47
def pct : UInt8 := 37

/-- the loop over `mailboxParts[:len-1]`: `a`, `a/b`, … for `a/b/c` -/
def leading (name : Bytes) : List Bytes :=
  let comps := splitOn slash name
  (List.range (comps.length - 1)).map (fun i => joinWith slash (comps.take (i + 1)))

/-- the implied parents `HandleLsub` announces as `\Noselect`, in the order it meets them, each once -/
def implied (subs : List Bytes) (ref pat : Bytes) : List Bytes :=
  if pat.contains pct then
    ((subs.filter (fun m => m.contains slash)).flatMap (fun m =>
      (leading m).filter (fun p => !subs.contains p && matchWildcard p (canonical ref pat)))).eraseDups
  else []

/-- everything LSUB lists: the subscribed matches (`FilterMailboxes`) and the implied parents -/
def shown (subs : List Bytes) (ref pat : Bytes) : List Bytes × List Bytes := (filter subs ref pat, implied subs ref pat)

/-- specification: `p` is a proper ancestor of `m` in the `/` hierarchy: `m = p ++ "/" ++ rest`, cut at a component boundary -/
def ProperAncestor (p m : Bytes) : Prop := p ∈ leading m

theorem slash_mem_of_leading {p m : Bytes} (h : p ∈ leading m) : slash ∈ m := by
  refine Decidable.byContradiction fun hn => ?_
  rw [leading, splitOn_nosep slash m fun c hc e => hn (e ▸ hc)] at h
  cases h

theorem mem_implied (subs : List Bytes) (ref pat p : Bytes) :
    p ∈ implied subs ref pat ↔
      pat.contains pct = true ∧ p ∉ subs ∧ MatchesCI (canonical ref pat) p ∧ ∃ m ∈ subs, ProperAncestor p m := by
  unfold implied
  split
  · next hp =>
    simp only [List.mem_eraseDups, List.mem_flatMap, List.mem_filter, Bool.and_eq_true, Bool.not_eq_true', ← Bool.not_eq_true,
      List.contains_iff_mem, matchWildcard_iff, hp, true_and, ProperAncestor]
    exact ⟨fun ⟨m, ⟨hm, _⟩, hpl, hns, hmatch⟩ => ⟨hns, hmatch, m, hm, hpl⟩,
      fun ⟨hns, hmatch, m, hm, hpl⟩ => ⟨m, ⟨hm, slash_mem_of_leading hpl⟩, hpl, hns, hmatch⟩⟩
  · next hp => exact ⟨nofun, fun h => absurd h.1 hp⟩

end Raven.Lsub
