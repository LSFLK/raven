import RavenModel.Base.GoStrSub
import RavenModel.Base.Lists
/-! Go's slice expression as a partial function (`none` = the run-time panic "slice bounds out of range"), the index
functions whose results the code slices with, and the hand-written slicing cores of the response builders: the address cut
of `parseAddressList`, the partial-range cut of FETCH `BODY[…]<start.len>`, the header/body cut at the first blank line. -/
namespace Raven.Slices
open Raven Raven.GoStr

/-- `s[lo:hi]` -/
def slice (s : Bytes) (lo hi : Int) : Option Bytes :=
  if 0 ≤ lo ∧ lo ≤ hi ∧ hi ≤ (s.length : Int) then some ((s.drop lo.toNat).take (hi - lo).toNat) else none

/-- on natural bounds `s[a:b]` is `b - a` octets from `a` on, for `a ≤ b ≤ len(s)` -/
theorem slice_nat {s : Bytes} {a b : Nat} (h1 : a ≤ b) (h2 : b ≤ s.length) :
    slice s a b = some ((s.drop a).take (b - a)) := by
  rw [slice, if_pos ⟨Int.natCast_nonneg a, Int.ofNat_le.2 h1, Int.ofNat_le.2 h2⟩, Int.toNat_natCast, ← Int.ofNat_sub h1,
    Int.toNat_natCast]

theorem slice_isSome (s : Bytes) (lo hi : Int) : (slice s lo hi).isSome = true ↔ 0 ≤ lo ∧ lo ≤ hi ∧ hi ≤ (s.length : Int) := by
  unfold slice; split <;> simp [*]

/-- `strings.IndexByte` (`none` = -1) -/
def indexByte (c : UInt8) : Bytes → Option Nat
  | [] => none
  | x :: xs => if x = c then some 0 else (indexByte c xs).map (· + 1)

theorem lt_of_split {s t : Bytes} {i : Nat} {c : UInt8} (h : s = s.take i ++ c :: t) : i < s.length := by
  have := congrArg List.length h
  simp only [List.length_append, List.length_cons, List.length_take] at this
  omega

theorem indexByte_spec (c : UInt8) (s : Bytes) (i : Nat) (h : indexByte c s = some i) :
    s = s.take i ++ c :: s.drop (i + 1) ∧ c ∉ s.take i := by
  fun_induction indexByte c s generalizing i
  case case1 => cases h
  case case2 => cases h; exact ⟨rfl, List.not_mem_nil⟩
  case case3 x xs hx ih =>
    obtain ⟨j, hj, rfl⟩ := Option.map_eq_some_iff.mp h
    obtain ⟨h1, h2⟩ := ih j hj
    exact ⟨congrArg (x :: ·) h1, fun hm => (List.mem_cons.mp hm).elim (fun e => hx e.symm) h2⟩

theorem indexByte_lt (c : UInt8) : ∀ (s : Bytes) (i : Nat), indexByte c s = some i → i < s.length :=
  fun s i h => lt_of_split (indexByte_spec c s i h).1

theorem indexByte_none (c : UInt8) (s : Bytes) (h : indexByte c s = none) : c ∉ s := by
  fun_induction indexByte c s
  case case1 => simp
  case case2 => cases h
  case case3 x xs hx ih =>
    simp only [List.mem_cons, not_or]
    exact ⟨fun e => hx e.symm, ih (by simpa using h)⟩

/-- `strings.Index` (`none` = -1) -/
def indexSub (sub : Bytes) : Bytes → Option Nat
  | [] => if sub = [] then some 0 else none
  | x :: xs => if hasPrefix (x :: xs) sub then some 0 else (indexSub sub xs).map (· + 1)

/-- what makes every `s[idx+len(sub):]` and `s[:idx+len(sub)]` of the code safe -/
theorem indexSub_bound (sub : Bytes) : ∀ (s : Bytes) (i : Nat), indexSub sub s = some i → i + sub.length ≤ s.length := by
  intro s i h
  fun_induction indexSub sub s generalizing i
  case case1 hs => cases h; simp [hs]
  case case2 => cases h
  case case3 hp => cases h; simpa using hasPrefix_length _ _ hp
  case case4 ih =>
    obtain ⟨j, hj, rfl⟩ := Option.map_eq_some_iff.mp h
    have := ih j hj
    simp only [List.length_cons]; omega

theorem index_slices (sub s : Bytes) (i : Nat) (h : indexSub sub s = some i) :
    (slice s (i + sub.length) s.length).isSome = true ∧ (slice s 0 (i + sub.length)).isSome = true := by
  have hb := indexSub_bound sub s i h
  rw [← Int.natCast_add, ← Int.natCast_zero, slice_nat hb (Nat.le_refl _), slice_nat (Nat.zero_le _) hb]
  exact ⟨rfl, rfl⟩

/-! ## header / body cut: `idx := strings.Index(msg, "\r\n\r\n"); msg[idx+4:]`, `msg[:idx+4]` -/
def crlf2 : Bytes := [13, 10, 13, 10]
def bodyCut (msg : Bytes) : Option Bytes :=
  match indexSub crlf2 msg with
  | some i => slice msg (i + 4) msg.length
  | none => some []
def headerCut (msg : Bytes) : Option Bytes :=
  match indexSub crlf2 msg with
  | some i => slice msg 0 (i + 4)
  | none => some msg

theorem bodyCut_total (msg : Bytes) : (bodyCut msg).isSome = true := by
  unfold bodyCut
  split
  · exact (index_slices crlf2 msg _ ‹_›).1
  · rfl
theorem headerCut_total (msg : Bytes) : (headerCut msg).isSome = true := by
  unfold headerCut
  split
  · exact (index_slices crlf2 msg _ ‹_›).2
  · rfl

/-! ## the partial-range cut: `<start.len>` after a section, scanned with `%d.%d` (so both numbers may be negative and as
large as an int64) -/
/-- the origin to print (`none`: the range is ignored and the whole payload answered) and the octets. The integers are
unbounded here: within int64 no wrap-around is involved, every intermediate value lies between 0 and the payload length -/
def partialCut (payload : Bytes) (start len : Int) : Option (Option Nat × Bytes) :=
  if 0 ≤ start ∧ 0 ≤ len then
    if start < (payload.length : Int) then
      let endPos : Int := if len < (payload.length : Int) - start then start + len else payload.length
      (slice payload start endPos).map (fun b => (some start.toNat, b))
    else some (some start.toNat, [])
  else some (none, payload)

theorem partialCut_spec (p : Bytes) (s l : Int) (hs : 0 ≤ s) (hl : 0 ≤ l) :
    partialCut p s l = some (some s.toNat, (p.drop s.toNat).take l.toNat) := by
  obtain ⟨a, rfl⟩ := Int.eq_ofNat_of_zero_le hs
  obtain ⟨n, rfl⟩ := Int.eq_ofNat_of_zero_le hl
  simp only [partialCut, hs, hl, and_self, if_true, Int.toNat_natCast, Int.lt_sub_right_iff_add_lt, ← Int.natCast_add, Int.ofNat_lt]
  split
  · next ha =>
    split
    · next hn => rw [slice_nat (Nat.le_add_right a n) (Nat.add_comm n a ▸ Nat.le_of_lt hn), Nat.add_sub_cancel_left]; rfl
    · next hn =>
      -- the cut runs to the end of the payload, and so do `n` octets from `a`
      rw [slice_nat (Nat.le_of_lt ha) (Nat.le_refl _), Option.map_some, List.take_of_length_le (Nat.le_of_eq List.length_drop),
        List.take_of_length_le (List.length_drop ▸ Nat.sub_le_iff_le_add.2 (Nat.le_of_not_lt hn))]
  · next ha => rw [List.drop_eq_nil_of_le (Nat.le_of_not_lt ha), List.take_nil]

theorem partialCut_total (p : Bytes) (s l : Int) : (partialCut p s l).isSome = true := by
  by_cases h : 0 ≤ s ∧ 0 ≤ l
  · rw [partialCut_spec p s l h.1 h.2]; rfl
  · simp only [partialCut, if_neg h]; rfl

/-! ## the address cut of `parseAddressList` -/
/-- `indexUnquoted`: the first `c` that is not inside a quoted string (where a backslash quotes the next octet) -/
def indexUnq (c : UInt8) : Bytes → Bool → Option Nat
  | [], _ => none
  | x :: xs, q =>
    if x = b_bs ∧ q = true then
      match xs with
      | _ :: ds => (indexUnq c ds q).map (· + 2)
      | [] => none
    else if x = b_dq then (indexUnq c xs (!q)).map (· + 1)
    else if x = c ∧ q = false then some 0
    else (indexUnq c xs q).map (· + 1)

theorem indexUnq_spec (c : UInt8) (s : Bytes) (q : Bool) (i : Nat) (h : indexUnq c s q = some i) :
    s = s.take i ++ c :: s.drop (i + 1) := by
  -- the branches of `indexUnq` in the order of its text
  fun_induction indexUnq c s q generalizing i
  case case1 => cases h                          -- the end of the text
  case case3 => cases h                          -- a backslash that ends the text
  case case5 hx => cases h; rw [hx.1]; rfl       -- found
  case case2 ih =>                               -- a quoted pair: two octets
    obtain ⟨j, hj, rfl⟩ := Option.map_eq_some_iff.mp h
    exact congrArg (_ :: _ :: ·) (ih j hj)
  -- the other branches step over one octet; `take` and `drop` of a successor on a cons unfold by themselves
  all_goals
    rename_i ih
    obtain ⟨j, hj, rfl⟩ := Option.map_eq_some_iff.mp h
    exact congrArg (_ :: ·) (ih j hj)

theorem indexUnq_lt (c : UInt8) (s : Bytes) (q : Bool) (i : Nat) (h : indexUnq c s q = some i) : i < s.length :=
  lt_of_split (indexUnq_spec c s q i h)

/-- `name = addr[:start]`, `email = addr[start+1:end]` when an unquoted `<` precedes the first unquoted `>`; otherwise the whole
text is the address -/
def addrCut (addr : Bytes) : Option (Bytes × Bytes) :=
  match indexUnq 60 addr false, indexUnq 62 addr false with
  | some st, some en =>
    if st < en then
      match slice addr 0 st, slice addr (st + 1) en with
      | some n, some e => some (n, e)
      | _, _ => none
    else some ([], addr)
  | _, _ => some ([], addr)

theorem addrCut_cases (addr : Bytes) : addrCut addr = some ([], addr) ∨
    ∃ st en, indexUnq 60 addr false = some st ∧ indexUnq 62 addr false = some en ∧ st < en ∧
      addrCut addr = some (addr.take st, (addr.drop (st + 1)).take (en - (st + 1))) := by
  unfold addrCut
  split
  · rename_i st en h1 h2
    split
    · rename_i hlt
      have hen := Nat.le_of_lt (indexUnq_lt 62 addr false en h2)
      refine Or.inr ⟨st, en, h1, h2, hlt, ?_⟩
      rw [← Int.natCast_zero, ← Int.natCast_succ, slice_nat (Nat.zero_le _) (Nat.le_trans (Nat.le_of_lt hlt) hen),
        slice_nat hlt hen]
      rfl
    · exact Or.inl rfl
  · exact Or.inl rfl

theorem addrCut_total (addr : Bytes) : (addrCut addr).isSome = true := by
  rcases addrCut_cases addr with h | ⟨_, _, _, _, _, h⟩ <;> rw [h] <;> rfl

theorem addrCut_faithful (addr n e : Bytes) (h : addrCut addr = some (n, e)) :
    (n = [] ∧ e = addr) ∨ (∃ rest, addr = n ++ 60 :: (e ++ 62 :: rest)) := by
  rcases addrCut_cases addr with h' | ⟨st, en, h1, h2, hlt, h'⟩ <;> rw [h'] at h <;> cases h
  · exact Or.inl ⟨rfl, rfl⟩
  · refine Or.inr ⟨addr.drop (en + 1), ?_⟩
    have a1 := indexUnq_spec 60 addr false st h1
    have b1 := indexUnq_spec 62 addr false en h2
    -- what follows `<` is what lies between `<` and `>`, then `>` and the rest
    have : addr.drop (st + 1) = (addr.drop (st + 1)).take (en - (st + 1)) ++ 62 :: addr.drop (en + 1) := by
      conv => lhs; rw [b1]
      rw [List.drop_append_of_le_length (by simp; have := lt_of_split b1; omega), List.drop_take]
    rw [← this]; exact a1

def trimQuotes (s : Bytes) : Bytes := trimP (· = b_dq) s

/-- one address: (name, mailbox, host) -/
def parseOne (addr : Bytes) : Option (Bytes × Bytes × Bytes) :=
  (addrCut addr).map fun (n, e) =>
    let name := trimQuotes (trimSpace n)
    match indexByte 64 e with
    | some i => (name, e.take i, e.drop (i + 1))
    | none => (name, e, [])

theorem parseOne_faithful (addr name mb host : Bytes) (h : parseOne addr = some (name, mb, host)) :
    ∃ n e, addrCut addr = some (n, e) ∧ name = trimQuotes (trimSpace n) ∧
      ((e = mb ++ 64 :: host ∧ 64 ∉ mb) ∨ (64 ∉ e ∧ mb = e ∧ host = [])) := by
  obtain ⟨⟨n, e⟩, hc, h⟩ := Option.map_eq_some_iff.mp h
  refine ⟨n, e, hc, ?_⟩
  cases hi : indexByte 64 e with
  | none => simp only [hi] at h; cases h; exact ⟨rfl, Or.inr ⟨indexByte_none 64 _ hi, rfl, rfl⟩⟩
  | some i => simp only [hi] at h; cases h; exact ⟨rfl, Or.inl (indexByte_spec 64 e i hi)⟩

/-- `splitAddressList`: split at the commas that separate addresses — not those inside a quoted display name (where a
backslash quotes the next octet) or inside angle brackets -/
def splitAddrAux : Bytes → Bool → Bool → Bytes → List Bytes
  | [], _, _, cur => [cur.reverse]
  | c :: cs, q, a, cur =>
    if c = b_bs ∧ q = true then
      match cs with
      | d :: ds => splitAddrAux ds q a (d :: c :: cur)
      | [] => [(c :: cur).reverse]
    else if c = b_dq then splitAddrAux cs (!q) a (c :: cur)
    else if c = 60 ∧ q = false then splitAddrAux cs q true (c :: cur)
    else if c = 62 ∧ q = false then splitAddrAux cs q false (c :: cur)
    else if c = b_comma ∧ q = false ∧ a = false then cur.reverse :: splitAddrAux cs q a []
    else splitAddrAux cs q a (c :: cur)
def splitAddresses (s : Bytes) : List Bytes := splitAddrAux s false false []

/-- every branch is a cons or the recursive call -/
theorem splitAddrAux_ne_nil (s : Bytes) (q a : Bool) (cur : Bytes) : splitAddrAux s q a cur ≠ [] := by
  fun_induction splitAddrAux s q a cur <;> first | exact List.cons_ne_nil _ _ | assumption

theorem splitAddrAux_join (s : Bytes) (q a : Bool) (cur : Bytes) :
    joinWith b_comma (splitAddrAux s q a cur) = cur.reverse ++ s := by
  fun_induction splitAddrAux s q a cur
  case case1 => simp [joinWith]     -- the end of the text
  case case3 => simp [joinWith]     -- a backslash that ends the text
  case case7 h ih => rw [joinWith_cons _ _ _ (splitAddrAux_ne_nil _ _ _ _), ih, h.1]; rfl     -- a separating comma
  -- the other branches move octets onto `cur` and go on
  all_goals (rename_i ih; simp [ih])

theorem splitAddresses_join (s : Bytes) : joinWith b_comma (splitAddresses s) = s := by
  simpa [splitAddresses] using splitAddrAux_join s false false []

/-- the whole list: split at the separating commas, blank entries dropped -/
def addressList (s : Bytes) : Option (List (Bytes × Bytes × Bytes)) :=
  (((splitAddresses s).map trimSpace).filter (· ≠ [])).mapM parseOne

theorem addressList_total (s : Bytes) : (addressList s).isSome = true := by
  unfold addressList
  apply mapM_total
  intro a
  unfold parseOne
  simp [addrCut_total]

/-- a comma inside a quoted display name does not separate addresses (the test vector C12 and C14 share) -/
theorem addressList_quoted_comma :
    addressList (b!"\"Doe, John\" <jd@x>, o@y") = some [((b!"Doe, John"), (b!"jd"), (b!"x")), ([], (b!"o"), (b!"y"))] := by
  decide +kernel

/-! ## quoted argument: `utils.ParseQuotedString`, `arg[1:len(arg)-1]` under the guard the code uses -/
def unquoteCut (arg : Bytes) : Option Bytes :=
  if arg.length ≥ 2 ∧ arg.head? = some b_dq ∧ arg.getLast? = some b_dq then slice arg 1 (arg.length - 1) else some arg

theorem unquoteCut_total (arg : Bytes) : (unquoteCut arg).isSome = true := by
  unfold unquoteCut
  split
  · rw [slice_isSome]; omega
  · rfl

end Raven.Slices
