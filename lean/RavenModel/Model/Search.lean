import RavenModel.Base.GoStr
import RavenModel.Base.Dec
import RavenModel.Base.Lists
/-! SEARCH: the search-key language as the evaluator reads it — tokens (a parenthesised group is one token holding its own
tokens), `searchKeyLen` / `evaluateTokens` as one parse-and-evaluate function over token lists (an incomplete key is an
error, not an index beyond the end), and the reference evaluator over key trees. -/
namespace Raven.Search
open Raven Raven.GoStr

inductive Tok where
  | seq (s : Bytes)        -- looks like a sequence set
  | kw0 (a : Bytes)        -- ALL, SEEN, DELETED, …            (no argument)
  | kw1 (a : Bytes)        -- FROM, KEYWORD, LARGER, UID, …   (one argument)
  | hdr                    -- HEADER                           (two arguments)
  | notT
  | orT
  | other (x : Bytes)      -- anything else: an argument, an unknown word, an unclosed parenthesis
  | group (raw : Bytes) (inner : List Tok)   -- "( … )": its text (when it stands where an argument is expected) and its keys

/-- message-dependent primitives -/
structure Prim where
  seqOK : Bytes → Bool
  a0 : Bytes → Bool
  a1 : Bytes → Tok → Bool
  h2 : Tok → Tok → Bool

/-- how a word that is no key is treated: the specification refuses it; SEARCH skips it unless it begins with a parenthesis
(an unclosed group); UID SEARCH skips everything it does not know -/
inductive Mode where
  | spec | search | uid
deriving DecidableEq, Repr

def startsParen (x : Bytes) : Bool := match x with | c :: _ => c = b_lp | [] => false

def otherOK : Mode → Bytes → Bool
  | .spec, _ => false
  | .search, x => !startsParen x
  | .uid, _ => true

variable (P : Prim) (m : Mode)

/-! ## parse and evaluate
`evalKey` reads one search key from the front of the token list and returns its value on the message and the rest;
`evalKeys` is the conjunction of all keys of a list. `none`: a key is incomplete (argument or sub-key missing) or, depending
on the mode, a word is no key. The fuel bounds the nesting: `evalKeys_print` asks for the cost of the key tree; the whole
command runs with `fuelFor` of Model/SearchImpl.lean (`2 * criteria.length + 4`), a modelling choice that no theorem shows to suffice. -/
mutual
def evalKey : Nat → List Tok → Option (Bool × List Tok)
  | 0, _ => none
  | _ + 1, [] => none
  | _ + 1, .seq s :: r => some (P.seqOK s, r)
  | _ + 1, .kw0 a :: r => some (P.a0 a, r)
  | _ + 1, .kw1 a :: x :: r => some (P.a1 a x, r)
  | _ + 1, [.kw1 _] => none
  | _ + 1, .hdr :: f :: v :: r => some (P.h2 f v, r)
  | _ + 1, [.hdr] => none
  | _ + 1, [.hdr, _] => none
  | f + 1, .notT :: r =>
    match evalKey f r with
    | some (b, r') => some (!b, r')
    | none => none
  | f + 1, .orT :: r =>
    match evalKey f r with
    | some (a, r1) =>
      match evalKey f r1 with
      | some (b, r2) => some (a || b, r2)
      | none => none
    | none => none
  | f + 1, .group _ inner :: r =>
    match evalKeys f inner with
    | some b => some (b, r)
    | none => none
  | _ + 1, .other x :: r => if otherOK m x then some (true, r) else none
def evalKeys : Nat → List Tok → Option Bool
  | 0, _ => none
  | _ + 1, [] => some true
  | f + 1, t :: r =>
    match evalKey f (t :: r) with
    | some (b, rest) =>
      match evalKeys f rest with
      | some c => some (b && c)
      | none => none
    | none => none
end

/-! ## the specification: key trees and their value -/
mutual
inductive Key where
  | seq (s : Bytes)
  | k0 (a : Bytes)
  | k1 (a : Bytes) (x : Tok)
  | hdr (f v : Tok)
  | not (k : Key)
  | or (a b : Key)
  | group (raw : Bytes) (ks : Keys)
inductive Keys where
  | nil
  | cons (k : Key) (ks : Keys)
end

mutual
def Key.eval : Key → Bool
  | .seq s => P.seqOK s
  | .k0 a => P.a0 a
  | .k1 a x => P.a1 a x
  | .hdr f v => P.h2 f v
  | .not k => !(k.eval)
  | .or a b => a.eval || b.eval
  | .group _ ks => ks.eval
def Keys.eval : Keys → Bool
  | .nil => true
  | .cons k ks => k.eval && ks.eval
end

mutual
def Key.print : Key → List Tok
  | .seq s => [.seq s]
  | .k0 a => [.kw0 a]
  | .k1 a x => [.kw1 a, x]
  | .hdr f v => [.hdr, f, v]
  | .not k => .notT :: k.print
  | .or a b => .orT :: (a.print ++ b.print)
  | .group raw ks => [.group raw ks.print]
def Keys.print : Keys → List Tok
  | .nil => []
  | .cons k ks => k.print ++ ks.print
end

/-! fuel that suffices for a key / a list of keys -/
mutual
def Key.cost : Key → Nat
  | .seq _ => 1
  | .k0 _ => 1
  | .k1 _ _ => 1
  | .hdr _ _ => 1
  | .not k => 1 + k.cost
  | .or a b => 1 + a.cost + b.cost
  | .group _ ks => 1 + ks.cost
def Keys.cost : Keys → Nat
  | .nil => 1
  | .cons k ks => 1 + k.cost + ks.cost
end

theorem Key.cost_pos (k : Key) : 1 ≤ k.cost := by
  cases k <;> simp only [Key.cost, Nat.add_assoc, Nat.le_add_right, Nat.le_refl]

theorem Keys.cost_pos (ks : Keys) : 1 ≤ ks.cost := by
  cases ks <;> simp only [Keys.cost, Nat.add_assoc, Nat.le_add_right, Nat.le_refl]

theorem evalKeys_of_evalKey {f : Nat} {ts rest : List Tok} {b : Bool} (h : evalKey P m f ts = some (b, rest)) :
    evalKeys P m (f + 1) ts = (evalKeys P m f rest).map (b && ·) := by
  cases ts with
  | nil => cases f <;> simp [evalKey] at h
  | cons t r => simp only [evalKeys, h]; cases evalKeys P m f rest <;> rfl

mutual
theorem evalKey_print : ∀ (k : Key) (rest : List Tok) (fuel : Nat), k.cost ≤ fuel →
    evalKey P m fuel (k.print ++ rest) = some (k.eval P, rest)
  | k, _, 0, h => absurd (Nat.le_trans k.cost_pos h) (by decide)
  | .seq _, _, _ + 1, _ | .k0 _, _, _ + 1, _ | .k1 _ _, _, _ + 1, _ | .hdr _ _, _, _ + 1, _ => rfl
  | .not k, rest, f + 1, h => by
    simp [Key.print, evalKey, Key.eval, evalKey_print k rest f (fuel_parts (y := 0) h).1]
  | .or a b, rest, f + 1, h => by
    simp [Key.print, evalKey, Key.eval, evalKey_print a (b.print ++ rest) f (fuel_parts h).1, evalKey_print b rest f (fuel_parts h).2]
  | .group raw ks, rest, f + 1, h => by
    simp [Key.print, evalKey, Key.eval, evalKeys_print ks f (fuel_parts (y := 0) h).1]
theorem evalKeys_print : ∀ (ks : Keys) (fuel : Nat), ks.cost ≤ fuel → evalKeys P m fuel ks.print = some (ks.eval P)
  | ks, 0, h => absurd (Nat.le_trans ks.cost_pos h) (by decide)
  | .nil, _ + 1, _ => rfl
  | .cons k ks, f + 1, h => by
    rw [Keys.print, evalKeys_of_evalKey P m (evalKey_print k ks.print f (fuel_parts h).1), evalKeys_print ks f (fuel_parts h).2]
    rfl
end

/-! ## modes: what the specification lets through, SEARCH lets through; what SEARCH lets through, UID SEARCH evaluates alike -/
def Mode.le : Mode → Mode → Bool
  | .spec, _ => true
  | .search, .spec => false
  | .search, _ => true
  | .uid, .uid => true
  | .uid, _ => false

theorem otherOK_mono {a b : Mode} (h : Mode.le a b = true) (x : Bytes) (hx : otherOK a x = true) : otherOK b x = true := by
  cases a <;> cases b <;> simp_all [otherOK, Mode.le]

/-- Two runs of the evaluator, the second in a mode that lets through at least as much and on any message: what the first
reads the second reads, leaving the same rest; and on the same message the value is the same. So the walk over a program
depends on the mode alone, its value on the message alone. -/
theorem eval_sim {a b : Mode} (h : Mode.le a b = true) (Q : Prim) : ∀ fuel,
    (∀ ts v r, evalKey P a fuel ts = some (v, r) → ∃ w, evalKey Q b fuel ts = some (w, r) ∧ (P = Q → w = v)) ∧
    (∀ ts v, evalKeys P a fuel ts = some v → ∃ w, evalKeys Q b fuel ts = some w ∧ (P = Q → w = v)) := by
  intro fuel
  induction fuel with
  | zero => exact ⟨fun _ _ _ hh => by simp [evalKey] at hh, fun _ _ hh => by simp [evalKeys] at hh⟩
  | succ f ih =>
    obtain ⟨ihk, ihks⟩ := ih
    refine ⟨fun ts => ?_, fun ts => ?_⟩
    · -- by the branches of `evalKey`: those without a value go, the four simple keys read alike in both runs
      -- (the fuel as a variable `g`: `fun_cases` on `f + 1` itself forgets that the sub-calls run on `f`)
      generalize hf : f + 1 = g
      fun_cases evalKey P a g ts <;> intro v r hh <;> cases hh <;> cases hf
      all_goals try exact ⟨_, rfl, fun e => e ▸ rfl⟩
      · next h1 =>      -- NOT
        obtain ⟨w, hw, e⟩ := ihk _ _ _ h1
        exact ⟨!w, by simp only [evalKey, hw], fun pq => by rw [e pq]⟩
      · next h1 h2 =>   -- OR
        obtain ⟨w1, hw1, e1⟩ := ihk _ _ _ h1
        obtain ⟨w2, hw2, e2⟩ := ihk _ _ _ h2
        exact ⟨w1 || w2, by simp only [evalKey, hw1, hw2], fun pq => by rw [e1 pq, e2 pq]⟩
      · next h1 =>      -- a parenthesised group
        obtain ⟨w, hw, e⟩ := ihks _ _ h1
        exact ⟨w, by simp only [evalKey, hw], e⟩
      · next hx =>      -- a key the mode lets through without evaluating it
        exact ⟨true, by simp only [evalKey, otherOK_mono h _ hx, if_true], fun _ => rfl⟩
    · generalize hf : f + 1 = g
      fun_cases evalKeys P a g ts <;> intro v hh <;> cases hh <;> cases hf
      · exact ⟨_, rfl, fun _ => rfl⟩
      · next h1 h2 =>
        obtain ⟨w1, hw1, e1⟩ := ihk _ _ _ h1
        obtain ⟨w2, hw2, e2⟩ := ihks _ _ h2
        exact ⟨w1 && w2, by simp only [evalKeys, hw1, hw2], fun pq => by rw [e1 pq, e2 pq]⟩

theorem evalKeys_mode_mono {a b : Mode} (h : Mode.le a b = true) {fuel : Nat} {ts : List Tok} {v : Bool}
    (hv : evalKeys P a fuel ts = some v) : evalKeys P b fuel ts = some v := by
  obtain ⟨w, hw, e⟩ := (eval_sim P h P fuel).2 ts v hv
  rw [hw, e rfl]

theorem wellformed_indep (Q : Prim) (fuel : Nat) (ts : List Tok) :
    (evalKeys P m fuel ts).isSome = (evalKeys Q m fuel ts).isSome := by
  have hm : Mode.le m m = true := by cases m <;> rfl
  have one : ∀ P Q : Prim, (evalKeys P m fuel ts).isSome = true → (evalKeys Q m fuel ts).isSome = true := by
    intro P Q hs
    obtain ⟨v, hv⟩ := Option.isSome_iff_exists.mp hs
    obtain ⟨w, hw, _⟩ := (eval_sim P hm Q fuel).2 ts v hv
    rw [hw]; rfl
  exact Bool.eq_iff_iff.mpr ⟨one P Q, one Q P⟩

end Raven.Search
