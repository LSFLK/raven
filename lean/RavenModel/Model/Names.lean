import RavenModel.Model.MailSteps
import RavenModel.Model.ListMatch
/-! The set of mailbox names of a store and what CREATE / DELETE / RENAME / LIST do to it (C11). -/
namespace Raven.Mail
open Raven Raven.GoStr

theorem has_false_iff (s : Store) (n : Bytes) : s.has n = false ↔ n ∉ s.names := by
  rw [← has_iff, Bool.not_eq_true]

theorem mem_newBox (s : Store) (n : Bytes) (now : Nat) (m : Bytes) :
    m ∈ (s.newBox n now).names ↔ m ∈ s.names ∨ (m = n ∧ n ≠ []) := by
  unfold Store.newBox
  split
  · rename_i h
    refine ⟨.inl, fun h' => h'.elim id fun ⟨e, hne⟩ => ?_⟩
    exact e ▸ (has_iff s n).mp (h.resolve_left hne)
  · rename_i h
    simp only [Store.names, List.map_append, List.map_cons, List.map_nil, List.mem_append, List.mem_singleton]
    exact or_congr_right ⟨fun e => ⟨e, fun hn => h (.inl hn)⟩, And.left⟩

theorem mem_newBoxes (s : Store) (ns : List Bytes) (now : Nat) (m : Bytes) :
    m ∈ (s.newBoxes ns now).names ↔ m ∈ s.names ∨ (m ∈ ns ∧ m ≠ []) := by
  unfold Store.newBoxes
  induction ns generalizing s with
  | nil => simp
  | cons n rest ih =>
    rw [List.foldl_cons, ih, mem_newBox, List.mem_cons, or_assoc]
    rw [or_and_right]
    exact or_congr_right (or_congr_left (and_congr_right fun e => e ▸ Iff.rfl))

/-- the name CREATE stores for an argument -/
def createdName (arg : Bytes) : Bytes := trimSuffix (trimQuotes arg) slash

theorem create_ok_iff (s : Store) (arg : Bytes) (now : Nat) :
    (s.create arg now).2 = .ok ↔ createdName arg ≠ [] ∧ toUpper (createdName arg) ≠ inboxName ∧
      underRoles (createdName arg) = false ∧ createdName arg ∉ s.names := by
  rw [create_eq s arg now (n := createdName arg) rfl, ← has_false_iff]
  split <;> simp [*]

theorem create_names (s : Store) (arg : Bytes) (now : Nat) (hok : (s.create arg now).2 = .ok) (m : Bytes) :
    m ∈ (s.create arg now).1.names ↔
      m ∈ s.names ∨ (m ∈ ancestors (createdName arg) ∧ m ≠ []) ∨ m = createdName arg := by
  have h := (create_ok_iff s arg now).mp hok
  rw [create_eq s arg now (n := createdName arg) rfl, if_pos ⟨h.1, h.2.1, h.2.2.1, (has_false_iff ..).mpr h.2.2.2⟩, mem_newBox,
    mem_newBoxes, or_assoc]
  exact or_congr_right (or_congr_right (and_iff_left h.1))

theorem create_refused (s : Store) (arg : Bytes) (now : Nat) (h : (s.create arg now).2 ≠ .ok) : (s.create arg now).1 = s := by
  rw [create_eq s arg now rfl] at h ⊢
  split at h
  · exact (h rfl).elim
  · rw [if_neg ‹_›]

/-- RENAME to a name in the part of the hierarchy reserved for role mailboxes is refused and changes nothing -/
theorem rename_refuses_roles (s : Store) (oa na : Bytes) (now : Nat) (hne : ¬ (trimQuotes oa = [] ∨ trimQuotes na = []))
    (hr : underRoles (trimSuffix (trimQuotes na) slash) = true) : s.rename oa na now = (s, .no) := by
  unfold Store.rename
  simp only [hne, hr, if_false, if_true]

theorem delete_names (s : Store) (arg : Bytes) :
    ((s.delete arg).2 = .ok → (s.delete arg).1.names = s.names.filter (· ≠ trimQuotes arg)) ∧
    ((s.delete arg).2 ≠ .ok → (s.delete arg).1 = s) := by
  rw [delete_eq]
  split
  · exact ⟨fun _ => by rw [Store.names, Store.names, List.filter_map]; rfl, fun h => (h rfl).elim⟩
  · exact ⟨fun h => by split at h <;> (cases h), fun _ => rfl⟩

theorem delete_ok_iff (s : Store) (arg : Bytes) :
    (s.delete arg).2 = .ok ↔
      trimQuotes arg ≠ [] ∧ toUpper (trimQuotes arg) ≠ inboxName ∧ trimQuotes arg ∈ s.names ∧
      (∀ m ∈ s.names, isChildOf (trimQuotes arg) m = false) ∧
      (∀ p ∈ protectedNames, equalFold (trimQuotes arg) p = false) := by
  rw [delete_eq, ← has_iff]
  simp only [Store.names, List.mem_map, forall_exists_index, and_imp, forall_apply_eq_imp_iff₂, ← Bool.not_eq_true,
    ← List.any_eq_false]
  split
  · simp [*]
  · refine ⟨fun h => ?_, fun h => absurd h ‹_›⟩; split at h <;> cases h

/-- `LIST "" "*"`: the star pattern matches every name -/
theorem star_matches_all (n : Bytes) : ListMatch.matchWildcard n [b_star] = true := by
  rw [ListMatch.matchWildcard_iff]
  unfold ListMatch.MatchesCI
  have : ListMatch.normInbox [b_star] = [b_star] := by decide
  rw [this]
  exact Wild.Matches.star (ListMatch.normInbox n) [] [] _ (by simp) Wild.Matches.nil

/-- RENAME (not of INBOX): missing ancestors of the new name are created, the mailbox and exactly the other mailboxes
below `old/` are renamed — the mailbox records (UIDs, messages, flags, UIDVALIDITY) travel unchanged — and nothing
else happens. -/
theorem rename_boxes (s : Store) (oa na : Bytes) (now : Nat)
    (hinb : toUpper (trimQuotes oa) ≠ inboxName) (hok : (s.rename oa na now).2 = .ok) :
    (s.rename oa na now).1.boxes =
      (s.newBoxes (ancestors (trimQuotes na)) now).boxes.map
        (fun b => { b with name := renamedName (trimQuotes oa) (trimQuotes na) b.name }) := by
  revert hok
  exact rename_cases s oa na now
    (fun r => r.2 = .ok → r.1.boxes = (s.newBoxes (ancestors (trimQuotes na)) now).boxes.map
      (fun b => { b with name := renamedName (trimQuotes oa) (trimQuotes na) b.name }))
    -- `with_reducible`: plain `rfl` unfolds `newBoxes` and `ancestors` before it compares the two sides
    (fun _ hr h => (hr h).elim) (fun h => (hinb h).elim) (fun _ => ⟨fun _ _ => by with_reducible rfl, fun _ => nofun⟩)

/-- `.bad` only: a RENAME answered NO because two names would collide has already created the missing ancestors
(`rename_cases`; `RenameMailboxPerUser` creates them before its transaction begins) -/
theorem rename_refused (s : Store) (oa na : Bytes) (now : Nat) (h : (s.rename oa na now).2 = .bad) : (s.rename oa na now).1 = s := by
  revert h
  exact rename_cases s oa na now (fun r => r.2 = .bad → r.1 = s) (fun _ _ _ => rfl) (fun _ _ _ _ => nofun)
    (fun _ => ⟨fun _ => nofun, fun _ => nofun⟩)

theorem subs_modify (s : Store) (n : Bytes) (f : Mbox → Mbox) : (s.modify n f).subs = s.subs := rfl

/-- the subscription list is touched by SUBSCRIBE and UNSUBSCRIBE only -/
theorem subs_step (s : Store) (op : Op) (h : op.isSubOp = false) : (step s op).subs = s.subs :=
  (steps_step s op h).rel (R := fun s t => t.subs = s.subs) (fun _ => rfl) (fun h1 h2 => h2.trans h1) fun p => by cases p <;> rfl

end Raven.Mail
