/-! The shared, content-addressed blob store: `db.StoreBlobWithEncoding` selects by the hash of the *decoded* content, bumps the
reference count, else inserts the writer's *encoded* text (C15, C02.4). Keys and texts are abstract numbers: the hash is taken as
injective on the run. -/
namespace Raven.Blob

structure Part where
  key : Nat        -- sha256 of the *decoded* content (injectivity of the hash on the run is trusted)
  text : Nat       -- the encoded text as submitted (abstract)
deriving DecidableEq, Repr

structure Entry where
  key : Nat
  text : Nat
  refs : Nat
deriving DecidableEq, Repr

def bump (k : Nat) (e : Entry) : Entry := if e.key = k then { e with refs := e.refs + 1 } else e
@[simp] theorem bump_key (k : Nat) (e : Entry) : (bump k e).key = e.key := by unfold bump; split <;> rfl
@[simp] theorem bump_text (k : Nat) (e : Entry) : (bump k e).text = e.text := by unfold bump; split <;> rfl

/-- StoreBlobWithEncoding: select by hash, bump the reference count, else insert the writer's text -/
def store (bs : List Entry) (p : Part) : List Entry :=
  if bs.any (·.key == p.key) then bs.map (bump p.key)
  else bs ++ [⟨p.key, p.text, 1⟩]

def read (bs : List Entry) (k : Nat) : Option Nat := (bs.find? (·.key == k)).map (·.text)
def refs (bs : List Entry) (k : Nat) : Nat := ((bs.find? (·.key == k)).map (·.refs)).getD 0

def storeAll (ps : List Part) : List Entry := ps.foldl store []

/-- what a part reads back: the text of the first part ever stored under its key -/
def firstText (ps : List Part) (k : Nat) : Option Nat := (ps.find? (·.key == k)).map (·.text)

theorem find?_store (k : Nat) (bs : List Entry) (p : Part) :
    (store bs p).find? (·.key == k) =
      match bs.find? (·.key == k) with
      | some e => some (bump p.key e)
      | none => if p.key = k then some ⟨p.key, p.text, 1⟩ else none := by
  have hb : ((fun x : Entry => x.key == k) ∘ bump p.key) = (fun x : Entry => x.key == k) := by funext e; simp
  unfold store
  split
  next hany =>
    rw [List.find?_map, hb]
    cases hf : bs.find? (·.key == k) with
    | some e => rfl
    | none =>
      -- the stored key is present, `k` is not
      obtain ⟨e, he, hek⟩ := List.any_eq_true.mp hany
      have hk : ¬ p.key = k := fun h => List.find?_eq_none.mp hf e he (h ▸ hek)
      simp [hk]
  next hany =>
    rw [List.find?_append]
    cases hf : bs.find? (·.key == k) with
    | some e =>
      -- the stored key is absent, so it is not this entry's
      have hne : ¬ e.key = p.key := fun h => hany (List.any_eq_true.mpr ⟨e, List.mem_of_find?_eq_some hf, by simp [h]⟩)
      simp [bump, hne]
    | none => by_cases hk : p.key = k <;> simp [hk]

theorem find?_foldl_store (k : Nat) : ∀ (bs : List Entry) (ps : List Part), (ps.foldl store bs).find? (·.key == k) =
    match bs.find? (·.key == k) with
    | some e => some { e with refs := e.refs + (ps.filter (·.key == k)).length }
    | none => (ps.find? (·.key == k)).map fun p => ⟨k, p.text, (ps.filter (·.key == k)).length⟩
  | bs, [] => by rw [List.foldl_nil]; cases bs.find? (·.key == k) <;> rfl
  | bs, p :: ps => by
    rw [List.foldl_cons, find?_foldl_store k _ ps, find?_store]
    cases hf : bs.find? (·.key == k) with
    | some e =>
      have hek : e.key = k := by simpa using List.find?_some hf
      by_cases hk : p.key = k
      · simp [bump, hk, hek, Nat.add_assoc, Nat.add_comm 1]
      · simp [bump, hk, hek, Ne.symm hk]
    | none => by_cases hk : p.key = k <;> simp [hk, Nat.add_comm]

/-- every part reads back the text of the first part stored under its key … -/
theorem read_storeAll (ps : List Part) (k : Nat) : read (storeAll ps) k = firstText ps k := by
  simp [read, storeAll, firstText, find?_foldl_store, Function.comp_def]

/-- … hence its own text, for every sequence of stores, provided equal keys mean equal encoded text -/
theorem readback_own (ps : List Part) (hno : ∀ p ∈ ps, ∀ q ∈ ps, p.key = q.key → p.text = q.text)
    (p : Part) (hp : p ∈ ps) : read (storeAll ps) p.key = some p.text := by
  rw [read_storeAll, firstText]
  cases hf : ps.find? (·.key == p.key) with
  | none => simpa using List.find?_eq_none.mp hf p hp
  | some q => simp [hno q (List.mem_of_find?_eq_some hf) p hp (by simpa using List.find?_some hf)]

/-- the finding, as a refutation of the unconditional statement: raw text vs its base64 form -/
example : read (storeAll [⟨7, 100⟩, ⟨7, 200⟩]) 7 = some 100 := by decide   -- the second part (text 200) reads 100

/-- `reference_count` of a key = the number of parts ever stored under it, for every sequence of stores -/
theorem refs_storeAll (ps : List Part) (k : Nat) : refs (storeAll ps) k = (ps.filter (fun p => p.key == k)).length := by
  simp only [refs, storeAll, find?_foldl_store, List.find?_nil]
  cases hf : ps.find? (·.key == k) with
  | some p => rfl
  | none => simp [List.filter_eq_nil_iff.2 fun p hp => List.find?_eq_none.1 hf p hp]

end Raven.Blob
