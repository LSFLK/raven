import RavenModel.Model.Lmtp
/-! The byte stream of an LMTP connection is consumed line by line, and a line is what lies between two line feeds — however
long it is. `lines` (the model of `bufio.Reader.ReadString('\n')` as the session and the DATA reader use it) hands out exactly
the lines that were written: no line is cut in pieces, none are merged, an unterminated tail is not a line. The end-of-data
test and the dot-unstuffing of `Lmtp.runLines` are applied to these lines, hence at true line starts only. -/
namespace Raven.Lmtp
open Raven Raven.GoStr

def IsLine (l : Bytes) : Prop := ∃ body, l = body ++ [b_lf] ∧ b_lf ∉ body

theorem linesAux_append (body cur rest : Bytes) (h : b_lf ∉ body) :
    linesAux cur (body ++ rest) = linesAux (body.reverse ++ cur) rest := by
  induction body generalizing cur with
  | nil => rfl
  | cons c body ih =>
    have hc : c ≠ b_lf := fun e => h (by simp [e])
    simp only [List.cons_append, linesAux, hc, if_false]
    rw [ih _ (fun m => h (List.mem_cons_of_mem _ m))]
    simp

/-- **the reader hands out the lines that were written**, whatever their lengths, and drops an unterminated tail -/
theorem lines_written : ∀ (ls : List Bytes) (tail : Bytes), (∀ l ∈ ls, IsLine l) → b_lf ∉ tail →
    lines (ls.flatten ++ tail) = ls
  | [], tail, _, ht => by simpa [lines, linesAux] using linesAux_append tail [] [] ht
  | l :: ls, tail, h, ht => by
    obtain ⟨body, rfl, hb⟩ := h l (List.mem_cons_self ..)
    have ih := lines_written ls tail (fun x hx => h x (List.mem_cons_of_mem _ hx)) ht
    simp only [lines] at ih ⊢
    simp only [List.flatten_cons, List.append_assoc, linesAux_append body [] _ hb]
    simp [linesAux, ih]

theorem isLine_stuffLine {l : Bytes} (h : IsLine l) : IsLine (stuffLine l) := by
  fun_cases stuffLine l
  · obtain ⟨body, e, hb⟩ := h
    exact ⟨b_dot :: body, by rw [e]; rfl, by simp [hb]⟩
  · exact h
  · exact h

theorem isLine_of_isTerm {t : Bytes} (h : isTerm t = true) : IsLine t := by
  simp only [isTerm, Bool.or_eq_true, beq_iff_eq] at h
  rcases h with rfl | rfl
  · exact ⟨[b_dot, b_cr], rfl, by simp⟩
  · exact ⟨[b_dot], rfl, by simp⟩

/-- the DATA phase **on the byte stream**: the octets of a dot-stuffed body followed by the terminator, read line by line
(lines of any length), yield exactly the body -/
theorem data_bytes_transparent (cfg : Cfg) (env : Env) (st : St) (body : List Bytes) (term : Bytes)
    (hq : st.quit = false) (hm : st.mode = .data [] 0 false)
    (hl : ∀ l ∈ body, IsLine l) (hterm : isTerm term = true)
    (hsize : (body.flatten).length ≤ cfg.maxSize) :
    runLines cfg env st (lines ((stuff body ++ [term]).flatten)) = endOfData env st (some body.flatten) := by
  have hall : ∀ l ∈ stuff body ++ [term], IsLine l := List.forall_mem_append.mpr
    ⟨List.forall_mem_map.mpr fun x hx => isLine_stuffLine (hl x hx), List.forall_mem_singleton.mpr (isLine_of_isTerm hterm)⟩
  rw [← List.append_nil (List.flatten _), lines_written _ [] hall nofun]
  simpa using data_transparent cfg env st body term [] 0 hq hm hterm (by omega)

end Raven.Lmtp
