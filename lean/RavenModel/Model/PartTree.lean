import RavenModel.Base.Bytes
/-! MIME part tree ⇄ flat part rows: `parser.parseMultipart` + `StoreMessagePerUserWithSharedDBAndS3` flatten the tree (pre-order,
parent = array index, relative part numbers), `ReconstructMessage…` / `mapIMAPPartPathToDBPart` read it back (children by
parent id, ordered by part number, DFS). C02 tree_roundtrip, C14 mapPath. -/
namespace Raven.PartTree

abbrev Attrs := List UInt8   -- media type, charset, file name, content-id, transfer encoding, content: one canonical octet string

inductive Tree where
  | leaf (a : Attrs) : Tree
  | multi (a : Attrs) (cs : List Tree) : Tree
deriving Repr

structure Row where
  parent : Option Nat      -- array index of the parent part (parser.parseMultipart)
  num : Nat                -- relative part number (StoreMessagePerUser…)
  a : Attrs
  isMulti : Bool
deriving Repr, DecidableEq

mutual
def size : Tree → Nat
  | .leaf _ => 1
  | .multi _ cs => 1 + sizeList cs
def sizeList : List Tree → Nat
  | [] => 0
  | t :: ts => size t + sizeList ts
end

mutual
/-- pre-order flattening; `base` = array index the node will get -/
def flat (base : Nat) (parent : Option Nat) (num : Nat) : Tree → List Row
  | .leaf a => [⟨parent, num, a, false⟩]
  | .multi a cs => ⟨parent, num, a, true⟩ :: flatList (base+1) base 1 cs
def flatList (base : Nat) (pidx : Nat) (num : Nat) : List Tree → List Row
  | [] => []
  | t :: ts => flat base (some pidx) num t ++ flatList (base + size t) pidx (num+1) ts
end

def flatten (t : Tree) : List Row := flat 0 none 1 t

/-- indices (with part numbers) of the rows whose parent is `i`, scanning from index `k` -/
def kids (i : Nat) : List Row → Nat → List (Nat × Nat)
  | [], _ => []
  | r :: rs, k => if r.parent = some i then (k, r.num) :: kids i rs (k+1) else kids i rs (k+1)

def insertBy (x : Nat × Nat) : List (Nat × Nat) → List (Nat × Nat)
  | [] => [x]
  | y :: ys => if x.2 < y.2 then x :: y :: ys else y :: insertBy x ys
def sortByNum : List (Nat × Nat) → List (Nat × Nat)
  | [] => []
  | x :: xs => insertBy x (sortByNum xs)

/-- children of part `i`: by parent id, ordered by part_number (ReconstructMessage… / mapIMAPPartPathToDBPart) -/
def childIdxs (rows : List Row) (i : Nat) : List Nat := (sortByNum (kids i rows 0)).map (·.1)

def treeAt (rows : List Row) : Nat → Nat → Option Tree
  | 0, _ => none
  | f+1, i =>
    match rows[i]? with
    | none => none
    | some r =>
      if r.isMulti then ((childIdxs rows i).mapM (treeAt rows f)).map (Tree.multi r.a)
      else some (.leaf r.a)

def rebuild (rows : List Row) : Option Tree := treeAt rows rows.length 0


mutual
theorem flat_length (b p n) : ∀ t : Tree, (flat b p n t).length = size t
  | .leaf _ => by simp [flat, size]
  | .multi _ cs => by simp [flat, size, flatList_length (b+1) b 1 cs]; omega
theorem flatList_length (b pi n) : ∀ ts : List Tree, (flatList b pi n ts).length = sizeList ts
  | [] => by simp [flatList, sizeList]
  | t :: ts => by simp [flatList, sizeList, flat_length b (some pi) n t, flatList_length (b + size t) pi (n+1) ts]
end

theorem size_pos : ∀ t : Tree, 0 < size t
  | .leaf _ => by simp [size]
  | .multi _ _ => by simp [size]; omega

/-- context condition: rows outside the block [lo, hi) never point into it -/
def Outside (lo hi : Nat) (r : Row) : Prop := ∀ k, r.parent = some k → k < lo ∨ hi ≤ k

/-- a block of `a + b` rows from `lo` on is a block of `a` rows followed by one of `b` rows: what is outside the whole is
outside either part -/
theorem Outside.head {lo a b : Nat} {r : Row} (h : Outside lo (lo + (a + b)) r) : Outside lo (lo + a) r :=
  fun k hk => (h k hk).imp id (Nat.le_trans (Nat.add_le_add_left (Nat.le_add_right a b) lo))

theorem Outside.tail {lo a b : Nat} {r : Row} (h : Outside lo (lo + (a + b)) r) : Outside (lo + a) (lo + a + b) r :=
  fun k hk => (h k hk).imp (Nat.lt_of_lt_of_le · (Nat.le_add_right lo a)) (Nat.add_assoc lo a b ▸ ·)

/-- a range `[lo, hi)` apart from a block at `b` is apart from the two parts of the block -/
theorem apart_parts {lo hi b x y : Nat} (h : hi ≤ b ∨ b + (x + y) ≤ lo) :
    (hi ≤ b ∨ b + x ≤ lo) ∧ (hi ≤ b + x ∨ b + x + y ≤ lo) :=
  h.elim (fun h => ⟨.inl h, .inl (Nat.le_trans h (Nat.le_add_right b x))⟩)
    fun h => ⟨.inr (Nat.le_trans (Nat.add_le_add_left (Nat.le_add_right x y) b) h), .inr (Nat.add_assoc b x y ▸ h)⟩

/- the rows of a tree point at the tree's parent or into the tree's own block: they stay outside every range [lo, hi) that
holds neither -/
mutual
theorem flat_outside (b pi n lo hi : Nat) (hpi : pi < lo ∨ hi ≤ pi) :
    ∀ t : Tree, hi ≤ b ∨ b + size t ≤ lo → ∀ r ∈ flat b (some pi) n t, Outside lo hi r
  | .leaf _, _, r, hr => by cases List.mem_singleton.1 hr; exact fun k hk => Option.some.inj hk ▸ hpi
  | .multi _ cs, h, r, hr => by
    have ⟨h1, h2⟩ := apart_parts (x := 1) h
    rcases List.mem_cons.1 hr with rfl | hr
    · exact fun k hk => Option.some.inj hk ▸ hpi
    · exact flatList_outside (b+1) b 1 lo hi (h1.symm.imp Nat.lt_of_succ_le id) cs h2 r hr
theorem flatList_outside (b pi n lo hi : Nat) (hpi : pi < lo ∨ hi ≤ pi) :
    ∀ ts : List Tree, hi ≤ b ∨ b + sizeList ts ≤ lo → ∀ r ∈ flatList b pi n ts, Outside lo hi r
  | [], _, _, hr => nomatch hr
  | t :: ts, h, r, hr => by
    have ⟨h1, h2⟩ := apart_parts (x := size t) h
    rcases List.mem_append.1 hr with hr | hr
    · exact flat_outside b pi n lo hi hpi t h1 r hr
    · exact flatList_outside (b + size t) pi (n+1) lo hi hpi ts h2 r hr
end

theorem kids_append (i : Nat) : ∀ (a b : List Row) (k : Nat), kids i (a ++ b) k = kids i a k ++ kids i b (k + a.length)
  | [], _, _ => rfl
  | r :: rs, b, k => by
    simp only [List.cons_append, kids, kids_append i rs b, List.length_cons, Nat.add_assoc, Nat.add_comm 1]
    split <;> rfl

theorem kids_outside {i lo hi : Nat} (h1 : lo ≤ i) (h2 : i < hi) : ∀ (rs : List Row) (k : Nat),
    (∀ r ∈ rs, Outside lo hi r) → kids i rs k = []
  | [], _, _ => rfl
  | r :: rs, k, h => by
    rw [kids, if_neg fun heq => by have := h r (by simp) i heq; omega]
    exact kids_outside h1 h2 rs _ fun x hx => h x (by simp [hx])

def rootPairs (b n : Nat) : List Tree → List (Nat × Nat)
  | [] => []
  | t :: ts => (b, n) :: rootPairs (b + size t) (n+1) ts

theorem kids_flat (b pi n : Nat) (hpi : pi < b) : ∀ t : Tree, kids pi (flat b (some pi) n t) b = [(b, n)]
  | .leaf _ => by simp [flat, kids]
  | .multi _ cs => by
    rw [flat, kids, if_pos rfl, kids_outside (Nat.le_refl pi) (Nat.lt_succ_self pi) _ _
      (flatList_outside (b+1) b 1 pi (pi+1) (.inr hpi) cs (.inl (Nat.succ_le_succ (Nat.le_of_lt hpi))))]

theorem kids_flatList (b pi n : Nat) (hpi : pi < b) : ∀ ts : List Tree,
    kids pi (flatList b pi n ts) b = rootPairs b n ts
  | [] => rfl
  | t :: ts => by
    rw [flatList, kids_append, kids_flat b pi n hpi t, flat_length, kids_flatList (b + size t) pi (n+1) (by omega) ts]
    rfl

/-- the part numbers of siblings go up by one: sorting by them changes nothing -/
theorem sort_rootPairs (b n : Nat) : ∀ ts : List Tree, sortByNum (rootPairs b n ts) = rootPairs b n ts
  | [] => rfl
  | [_] => rfl
  | t :: t' :: ts => by
    have ih := sort_rootPairs (b + size t) (n+1) (t' :: ts)
    simp only [rootPairs, sortByNum] at ih ⊢
    simp [ih, insertBy]

theorem getElem?_mid (pre : List Row) (x : Row) (post : List Row) : (pre ++ x :: post)[pre.length]? = some x := by
  simp

/- `Rep rows i t`: the rows, read the way the server reads them (children by parent id, ordered by part
    number), represent tree `t` at index `i` -/
mutual
def Rep (rows : List Row) : Nat → Tree → Prop
  | i, .leaf a => (∃ p n, rows[i]? = some ⟨p, n, a, false⟩) ∧ childIdxs rows i = []
  | i, .multi a cs => (∃ p n, rows[i]? = some ⟨p, n, a, true⟩) ∧ ∃ js, childIdxs rows i = js ∧ RepList rows js cs
def RepList (rows : List Row) : List Nat → List Tree → Prop
  | [], [] => True
  | j :: js, t :: ts => Rep rows j t ∧ RepList rows js ts
  | _, _ => False
end

theorem kids_block {i hi : Nat} (pre blk post : List Row) (h1 : pre.length ≤ i) (h2 : i < hi)
    (hctx : ∀ r ∈ pre ++ post, Outside pre.length hi r) : kids i (pre ++ blk ++ post) 0 = kids i blk pre.length := by
  have ⟨hpre, hpost⟩ := List.forall_mem_append.1 hctx
  rw [kids_append, kids_append, kids_outside h1 h2 pre _ hpre, kids_outside h1 h2 post _ hpost]
  simp

mutual
theorem rep_flat : ∀ (t : Tree) (pre post : List Row) (p : Option Nat) (n : Nat),
    (∀ k, p = some k → k < pre.length) →
    (∀ r ∈ pre ++ post, Outside pre.length (pre.length + size t) r) →
    Rep (pre ++ flat pre.length p n t ++ post) pre.length t
  | t, pre, post, p, n, hp, hctx => by
    -- the node's own row points in front of the block, so it is not among its children
    have hk := kids_block pre (flat pre.length p n t) post (Nat.le_refl _) (Nat.lt_add_of_pos_right (size_pos t)) hctx
    have hroot : p ≠ some pre.length := fun h => Nat.lt_irrefl _ (hp _ h)
    match t with
    | .leaf a => exact ⟨⟨p, n, by simp [flat]⟩, by rw [childIdxs, hk, flat, kids, if_neg hroot]; rfl⟩
    | .multi a cs =>
      refine ⟨⟨p, n, by simp [flat]⟩, _, by
        rw [childIdxs, hk, flat, kids, if_neg hroot, kids_flatList _ _ _ (Nat.lt_succ_self _), sort_rootPairs], ?_⟩
      simp only [size] at hctx
      have ⟨hpre, hpost⟩ := List.forall_mem_append.1 hctx
      -- the children's rows follow the node's own row
      have h := repList_flat cs (pre ++ [⟨p, n, a, true⟩]) post pre.length 1 (by simp) (by
        simp only [List.forall_mem_append, List.mem_singleton, forall_eq, List.length_append, List.length_singleton]
        exact ⟨⟨fun r hr => (hpre r hr).tail, fun k hk => .inl (Nat.lt_succ_of_lt (hp k hk))⟩, fun r hr => (hpost r hr).tail⟩)
      simpa [flat] using h
theorem repList_flat : ∀ (ts : List Tree) (pre post : List Row) (pi n : Nat),
    pi < pre.length →
    (∀ r ∈ pre ++ post, Outside pre.length (pre.length + sizeList ts) r) →
    RepList (pre ++ flatList pre.length pi n ts ++ post) ((rootPairs pre.length n ts).map (·.1)) ts
  | [], pre, post, pi, n, _, _ => by simp [rootPairs, RepList]
  | t :: ts, pre, post, pi, n, hpi, hctx => by
    simp only [sizeList] at hctx
    have ⟨hpre, hpost⟩ := List.forall_mem_append.1 hctx
    -- the first tree, with its siblings' rows behind it …
    have hhead := rep_flat t pre (flatList (pre.length + size t) pi (n+1) ts ++ post) (some pi) n
      (fun k hk => by cases hk; exact hpi) (by
        simp only [List.forall_mem_append]
        exact ⟨fun r hr => (hpre r hr).head, flatList_outside _ pi _ _ _ (.inl hpi) ts (.inl (Nat.le_refl _)),
          fun r hr => (hpost r hr).head⟩)
    -- … and the siblings, with its rows in front of them
    have htail := repList_flat ts (pre ++ flat pre.length (some pi) n t) post pi (n+1) (by simp; omega) (by
      simp only [List.forall_mem_append, List.length_append, flat_length]
      exact ⟨⟨fun r hr => (hpre r hr).tail,
        flat_outside _ pi n _ _ (.inl (Nat.lt_of_lt_of_le hpi (Nat.le_add_right ..))) t (.inr (Nat.le_refl _))⟩,
        fun r hr => (hpost r hr).tail⟩)
    simp only [List.length_append, flat_length] at htail
    simp only [rootPairs, List.map_cons, RepList, flatList, List.append_assoc] at hhead htail ⊢
    exact ⟨hhead, htail⟩
end

mutual
theorem treeAt_of_rep (rows : List Row) : ∀ (t : Tree) (i f : Nat), Rep rows i t → size t ≤ f → treeAt rows f i = some t
  | t, _, 0, _, hf => absurd hf (Nat.not_le_of_gt (size_pos t))
  | .leaf a, i, f + 1, ⟨⟨p, n, hg⟩, _⟩, _ => by simp [treeAt, hg]
  | .multi a cs, i, f + 1, ⟨⟨p, n, hg⟩, js, hk, hl⟩, hf => by
    have := mapM_of_repList rows cs js f hl (by simp only [size] at hf; omega)
    simp [treeAt, hg, hk, this]
theorem mapM_of_repList (rows : List Row) : ∀ (ts : List Tree) (js : List Nat) (f : Nat), RepList rows js ts → sizeList ts ≤ f →
    js.mapM (treeAt rows f) = some ts
  | [], [], f, _, _ => rfl
  | [], _ :: _, _, h, _ => h.elim
  | _ :: _, [], _, h, _ => h.elim
  | t :: ts, j :: js, f, ⟨h1, h2⟩, hf => by
    have a := treeAt_of_rep rows t j f h1 (Nat.le_trans (Nat.le_add_right ..) hf)
    have b := mapM_of_repList rows ts js f h2 (Nat.le_trans (Nat.le_add_left ..) hf)
    simp [List.mapM_cons, a, b]
end

theorem rep_flatten (t : Tree) : Rep (flatten t) 0 t := by
  have := rep_flat t [] [] none 1 (by simp) (by simp)
  simpa [flatten] using this

/-- C02.2: the stored rows determine the submitted tree, for every tree of any depth and width -/
theorem rebuild_flatten (t : Tree) : rebuild (flatten t) = some t := by
  unfold rebuild
  exact treeAt_of_rep _ t 0 _ (rep_flatten t) (by simp [flatten, flat_length])

/-! ### C14: IMAP section paths (mapIMAPPartPathToDBPart) -/

/-- spec: IMAP part addressing on the submitted tree (1-based) -/
def childAt : Tree → Nat → Option Tree
  | .multi _ cs, i => if i = 0 then none else cs[i-1]?
  | .leaf _, _ => none
def descend : Tree → List Nat → Option Tree
  | t, [] => some t
  | t, i :: is => (childAt t i).bind (fun c => descend c is)
def subtreeAt : Tree → List Nat → Option Tree
  | _, [] => none
  | .leaf a, i :: is => if i = 1 then descend (.leaf a) is else none
  | .multi a cs, i :: is => (childAt (.multi a cs) i).bind (fun c => descend c is)

/-- model: follow child index lists in the rows -/
def rowChildAt (rows : List Row) (idx i : Nat) : Option Nat :=
  if i = 0 then none else (childIdxs rows idx)[i-1]?
def rowDescend (rows : List Row) : Nat → List Nat → Option Nat
  | idx, [] => some idx
  | idx, i :: is => (rowChildAt rows idx i).bind (fun c => rowDescend rows c is)
/-- the root container is invisible; a single non-multipart root is part 1 -/
def mapPath (rows : List Row) : List Nat → Option Nat
  | [] => none
  | i :: is =>
    match rows[0]? with
    | none => none
    | some r =>
      if r.isMulti then (rowChildAt rows 0 i).bind (fun c => rowDescend rows c is)
      else if i = 1 then rowDescend rows 0 is else none

def RepOpt (rows : List Row) : Option Nat → Option Tree → Prop
  | some j, some t => Rep rows j t
  | none, none => True
  | _, _ => False

theorem RepOpt.bind {rows : List Row} {f : Nat → Option Nat} {g : Tree → Option Tree} :
    ∀ {oj : Option Nat} {ot : Option Tree}, RepOpt rows oj ot → (∀ j t, Rep rows j t → RepOpt rows (f j) (g t)) →
      RepOpt rows (oj.bind f) (ot.bind g)
  | some j, some t, h, hfg => hfg j t h
  | none, none, _, _ => trivial

theorem repList_get (rows : List Row) : ∀ (ts : List Tree) (js : List Nat), RepList rows js ts → ∀ k : Nat,
    RepOpt rows js[k]? ts[k]?
  | [], [], _, _ => trivial
  | [], _ :: _, h, _ => h.elim
  | _ :: _, [], h, _ => h.elim
  | _ :: _, _ :: _, h, 0 => h.1
  | _ :: ts, _ :: js, h, k + 1 => repList_get rows ts js h.2 k

theorem childAt_correct {rows : List Row} {idx : Nat} : ∀ {t : Tree}, Rep rows idx t → ∀ i,
    RepOpt rows (rowChildAt rows idx i) (childAt t i)
  | .leaf _, ⟨_, hk⟩, i => by simp [rowChildAt, childAt, hk, RepOpt]
  | .multi _ cs, ⟨_, js, hk, hl⟩, i => by
    simp only [rowChildAt, childAt, hk]
    split
    · trivial
    · exact repList_get rows cs js hl (i - 1)

theorem rowDescend_correct (rows : List Row) : ∀ (is : List Nat) (t : Tree) (idx : Nat), Rep rows idx t →
    RepOpt rows (rowDescend rows idx is) (descend t is)
  | [], _, _, h => h
  | i :: is, _, _, h => (childAt_correct h i).bind fun j t hj => rowDescend_correct rows is t j hj

/-- C14: the section path addresses, in the stored rows, exactly the part it addresses in the submitted
    message; a path absent from the message yields nothing -/
theorem mapPath_flatten (t : Tree) (path : List Nat) :
    match mapPath (flatten t) path, subtreeAt t path with
    | some j, some s => Rep (flatten t) j s
    | none, none => True
    | _, _ => False := by
  have hrep := rep_flatten t
  show RepOpt (flatten t) _ _
  match path, t, hrep with
  | [], _, _ => trivial
  | i :: is, .leaf a, hrep =>
    obtain ⟨⟨p, n, hg⟩, _⟩ := hrep
    simp only [mapPath, hg, subtreeAt, Bool.false_eq_true, if_false]
    split
    · exact rowDescend_correct _ is _ 0 (rep_flatten _)
    · trivial
  | i :: is, .multi a cs, hrep =>
    have h := (childAt_correct hrep i).bind fun j t hj => rowDescend_correct _ is t j hj
    obtain ⟨⟨p, n, hg⟩, _⟩ := hrep
    simpa only [mapPath, hg, subtreeAt, if_true] using h
end Raven.PartTree
