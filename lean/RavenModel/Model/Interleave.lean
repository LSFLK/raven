import RavenModel.Model.Durable
/-! What the Durable machine assumes and what happens without it: UID allocation as two statements (read `uid_next`, then bump
it), a flag update as read – compute – write back, and the double-checked handle cache of the database manager. -/
namespace Raven.Interleave

/-! ## UID allocation in two statements -/
structure St2 where
  uidNext : Nat
  locals : List (Nat × Nat)     -- (writer, the uid_next it read)
  links : List (Nat × Nat)      -- (uid, writer)
  failed : List Nat             -- writers whose INSERT hit UNIQUE(mailbox_id, uid)
deriving Repr, DecidableEq

inductive Ev2 where
  | read (w : Nat)     -- SELECT uid_next
  | bump (w : Nat)     -- UPDATE … SET uid_next = uid_next + 1
  | insert (w : Nat)   -- INSERT INTO message_mailbox
deriving Repr, DecidableEq

def step2 (s : St2) : Ev2 → St2
  | .read w => { s with locals := (w, s.uidNext) :: s.locals }
  | .bump _ => { s with uidNext := s.uidNext + 1 }
  | .insert w =>
    match s.locals.find? (·.1 == w) with
    | none => s
    | some (_, u) => if s.links.any (·.1 == u) then { s with failed := w :: s.failed } else { s with links := (u, w) :: s.links }

/-! ## a flag update as read – compute – write back -/
structure StF where
  flags : List Nat              -- the stored flag set
  locals : List (Nat × List Nat)
  acked : List (Nat × Nat)      -- (session, the flag it was told is set)
deriving Repr, DecidableEq

inductive EvF where
  | read (w : Nat)
  | write (w f : Nat)           -- UPDATE … SET flags = (what it read) ∪ {f}; answered OK
deriving Repr, DecidableEq

def stepF (s : StF) : EvF → StF
  | .read w => { s with locals := (w, s.flags) :: s.locals }
  | .write w f =>
    match s.locals.find? (·.1 == w) with
    | none => s
    | some (_, old) => { s with flags := (f :: old).eraseDups, acked := (w, f) :: s.acked }

/-- the same update as one statement (or inside one write transaction) -/
def stepFAtomic (s : StF) (w f : Nat) : StF := { s with flags := (f :: s.flags).eraseDups, acked := (w, f) :: s.acked }

/-! ## the flag update as the code has it now: read, compute, write back **if the flags are still what was read**, else read again -/
inductive EvC where
  | read (w : Nat)
  | cas (w f : Nat)       -- UPDATE … SET flags = (read ∪ {f}) WHERE … AND flags = (read); answered OK only when a row was changed
deriving Repr, DecidableEq

def stepC (s : StF) : EvC → StF
  | .read w => { s with locals := (w, s.flags) :: s.locals.filter (fun p => !(p.1 == w)) }
  | .cas w f =>
    match s.locals.find? (·.1 == w) with
    | none => s
    | some (_, old) =>
      if old = s.flags then { s with flags := (f :: s.flags).eraseDups, acked := (w, f) :: s.acked }
      else { s with locals := (w, s.flags) :: s.locals.filter (fun p => !(p.1 == w)) }   -- no row changed: read again, no OK yet

def AckedPresent (s : StF) : Prop := ∀ a ∈ s.acked, a.2 ∈ s.flags

theorem stepC_acked (s : StF) (e : EvC) (h : AckedPresent s) : AckedPresent (stepC s e) := by
  cases e with
  | read w => exact h
  | cas w f =>
    simp only [stepC]
    split
    · exact h
    · split
      · -- the write went through: the new flag is stored, the earlier ones still are
        intro a ha
        rcases List.mem_cons.mp ha with rfl | ha
        · simp
        · simpa using .inr (h a ha)
      · exact h

theorem runC_acked : ∀ (sched : List EvC) (s : StF), AckedPresent s → AckedPresent (sched.foldl stepC s)
  | [], _, h => h
  | e :: es, s, h => runC_acked es _ (stepC_acked s e h)

/-! ## the handle cache: look up; if absent take the write lock, look up again, open and install -/
structure Cache where
  handles : List (Nat × Nat)    -- (store id, handle)
  opened : Nat                  -- handles opened so far (the next handle number)
deriving Repr, DecidableEq

/-- one `GetUserDB` (the part under the write lock is atomic) -/
def getDB (c : Cache) (id : Nat) : Cache × Nat :=
  match c.handles.find? (·.1 == id) with
  | some (_, h) => (c, h)
  | none => ({ handles := (id, c.opened) :: c.handles, opened := c.opened + 1 }, c.opened)

def getAll : Cache → List Nat → Cache
  | c, [] => c
  | c, id :: ids => getAll (getDB c id).1 ids

theorem getDB_nodup (c : Cache) (id : Nat) (h : (c.handles.map (·.1)).Nodup) : ((getDB c id).1.handles.map (·.1)).Nodup := by
  unfold getDB
  split
  · exact h
  · rename_i hf
    refine List.nodup_cons.mpr ⟨fun hm => ?_, h⟩
    obtain ⟨x, hx, hxe⟩ := List.mem_map.mp hm
    simpa [hxe] using List.find?_eq_none.mp hf x hx

theorem getAll_nodup : ∀ (ids : List Nat) (c : Cache), (c.handles.map (·.1)).Nodup → ((getAll c ids).handles.map (·.1)).Nodup
  | [], _, h => h
  | id :: ids, c, h => getAll_nodup ids _ (getDB_nodup c id h)

end Raven.Interleave
