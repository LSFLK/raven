import RavenModel.Base.Dec
import RavenModel.Base.Lists
/-! IMAP response token trees, the renderer, a strict RFC 3501 reader and their round trip (C13). -/
namespace Raven.Resp
open Raven Raven.Dec

local notation "DQ" => (34 : UInt8)
local notation "BS" => (92 : UInt8)
local notation "CR" => (13 : UInt8)
local notation "LF" => (10 : UInt8)
local notation "SP" => (32 : UInt8)
local notation "LP" => (40 : UInt8)
local notation "RP" => (41 : UInt8)
local notation "LB" => (123 : UInt8)
local notation "RB" => (125 : UInt8)

/-- the two `strings.ReplaceAll` of `response.QuoteOrNIL` and of `mailbox.quoteMailbox`: a backslash in front of `\` and `"` -/
def escape : Bytes → Bytes
  | [] => []
  | c :: cs => if c = BS ∨ c = DQ then BS :: c :: escape cs else c :: escape cs
/-- `fmt.Sprintf("\"%s\"", …)` around the escaped text (`QuoteOrNIL`, `quoteMailbox`) -/
def quote (s : Bytes) : Bytes := DQ :: escape s ++ [DQ]

def QSafe (s : Bytes) : Prop := ∀ c ∈ s, c ≠ CR ∧ c ≠ LF ∧ c ≠ 0

/-- strict reader after the opening quote; the Boolean: the previous byte was an unescaped backslash -/
def readQ : Bool → Bytes → Option (Bytes × Bytes)
  | _, [] => none
  | true, c :: cs => if c = BS ∨ c = DQ then (readQ false cs).map (fun p => (c :: p.1, p.2)) else none
  | false, c :: cs =>
    if c = DQ then some ([], cs)
    else if c = CR ∨ c = LF ∨ c = 0 then none
    else if c = BS then readQ true cs
    else (readQ false cs).map (fun p => (c :: p.1, p.2))
def readQBody (b : Bytes) := readQ false b

theorem readQBody_escape (s rest : Bytes) (h : QSafe s) : readQBody (escape s ++ DQ :: rest) = some (s, rest) := by
  unfold readQBody
  induction s with
  | nil => simp [escape, readQ]
  | cons c cs ih =>
    have ⟨h1, h2, h3⟩ := h c (by simp)
    have ih' := ih (fun x hx => h x (by simp [hx]))
    by_cases hq : c = BS ∨ c = DQ
    · simp [escape, readQ, hq, ih']
    · have ⟨h4, h5⟩ := not_or.mp hq
      simp [escape, readQ, ih', h1, h2, h3, h4, h5]

/-- `fmt.Sprintf("{%d}\r\n%s", len(s), s)`: `message.literal` (fetch.go) and the fallback of `QuoteOrNIL` -/
def lit (s : Bytes) : Bytes := LB :: print s.length ++ [RB, CR, LF] ++ s

def spanDigits : Bytes → Bytes × Bytes
  | [] => ([], [])
  | c :: cs => if isDigit c then let (d, r) := spanDigits cs; (c :: d, r) else ([], c :: cs)

theorem spanDigits_append (ds rest : Bytes) (hd : ∀ c ∈ ds, isDigit c = true) (hr : spanDigits rest = ([], rest)) :
    spanDigits (ds ++ rest) = (ds, rest) := by
  induction ds with
  | nil => exact hr
  | cons d ds ih => simp [spanDigits, hd d (by simp), ih (fun c hc => hd c (by simp [hc]))]

def readLit : Bytes → Option (Bytes × Bytes)
  | c :: cs =>
    if c = LB then
      let (ds, r) := spanDigits cs
      match atoi ds, r with
      | some n, a :: b :: d :: r' =>
        if a = RB ∧ b = CR ∧ d = LF ∧ n ≤ r'.length then some (r'.take n, r'.drop n) else none
      | _, _ => none
    else none
  | [] => none

theorem lit_append (s rest : Bytes) : lit s ++ rest = LB :: (print s.length ++ RB :: CR :: LF :: (s ++ rest)) := by
  simp [lit]

theorem readLit_lit (s rest : Bytes) : readLit (lit s ++ rest) = some (s, rest) := by
  have hsp := spanDigits_append (print s.length) (RB :: CR :: LF :: (s ++ rest)) (print_digits _) rfl
  rw [lit_append]
  unfold readLit
  simp only [if_true, hsp, atoi_print]
  simp

/-- atom octets: anything but SP, CTL, DEL, parentheses, `{`, the double quote and the brackets themselves; a bracketed section
`[ … ]` (FETCH section specs, response codes) is read as part of the atom, blanks and parentheses inside included -/
def isAtomChar (c : UInt8) : Bool :=
  !(c ≤ 32 || c = 127 || c = LP || c = RP || c = LB || c = DQ || c = 91 || c = 93)

/-- the Boolean: inside a bracketed section -/
def spanAtom : Bool → Bytes → Bytes × Bytes
  | _, [] => ([], [])
  | false, c :: cs =>
    if c = 91 then let (a, r) := spanAtom true cs; (c :: a, r)
    else if isAtomChar c then let (a, r) := spanAtom false cs; (c :: a, r)
    else ([], c :: cs)
  | true, c :: cs =>
    if c = 93 then let (a, r) := spanAtom false cs; (c :: a, r)
    else if c = CR ∨ c = LF then ([], c :: cs)
    else let (a, r) := spanAtom true cs; (c :: a, r)

inductive R where
  | nil
  | num (n : Nat)
  | quoted (s : Bytes)
  | literal (s : Bytes)
  | list (xs : List R)
  | atom (s : Bytes)

mutual
/-- the tokens as the response builders (`BuildEnvelope`, `BuildBodyStructure`, the FETCH items) put them together by hand:
lists in parentheses, their items separated by one SP -/
def render : R → Bytes
  | .nil => [78, 73, 76]
  | .num n => print n
  | .quoted s => quote s
  | .literal s => lit s
  | .list xs => LP :: renderList xs ++ [RP]
  | .atom s => s
def renderList : List R → Bytes
  | [] => []
  | [x] => render x
  | x :: y :: ys => render x ++ SP :: renderList (y :: ys)
end

/-- the shape `spanAtom` consumes completely: atom octets, with bracketed sections `[ … ]` (free of CR and LF) anywhere -/
def atomShape : Bool → Bytes → Bool
  | d, [] => !d
  | false, c :: cs => if c = 91 then atomShape true cs else isAtomChar c && atomShape false cs
  | true, c :: cs => if c = 93 then atomShape false cs else (c ≠ CR && c ≠ LF) && atomShape true cs

/-- an atom (FETCH item names with section specs and partials included): non-empty, of atom shape, not starting with a
digit, and not the word NIL -/
def AtomOK (s : Bytes) : Prop :=
  s ≠ [] ∧ atomShape false s = true ∧ (∀ c, s.head? = some c → isDigit c = false) ∧ s ≠ [78, 73, 76]

mutual
def WF : R → Prop
  | .nil => True
  | .num _ => True
  | .quoted s => QSafe s
  | .literal _ => True
  | .list xs => WFList xs
  | .atom s => AtomOK s
def WFList : List R → Prop
  | [] => True
  | x :: xs => WF x ∧ WFList xs
end

/-- what may follow a value: SP, ')', CR or the end of input -/
def isDelim : Bytes → Bool
  | [] => true
  | c :: _ => c == SP || c == RP || c == CR

mutual
/-- strict reader with fuel; a value must be followed by a delimiter -/
def readVal : Nat → Bytes → Option (R × Bytes)
  | 0, _ => none
  | f+1, inp =>
    match inp with
    | [] => none
    | c :: cs =>
      if c = DQ then (readQBody cs).map (fun (s, r) => (R.quoted s, r))
      else if c = LB then (readLit (c :: cs)).map (fun (s, r) => (R.literal s, r))
      else if c = LP then
        match cs with
        | d :: ds => if d = RP then some (R.list [], ds) else (readItems f cs).map (fun (xs, r) => (R.list xs, r))
        | [] => none
      else if isDigit c then
        let (ds, r) := spanDigits (c :: cs)
        if isDelim r then (atoi ds).map (fun n => (R.num n, r)) else none
      else
        let (a, r) := spanAtom false (c :: cs)
        if a = [] ∨ !isDelim r then none
        else if a = [78, 73, 76] then some (R.nil, r) else some (R.atom a, r)
/-- one or more values separated by single SP, closed by ')' -/
def readItems : Nat → Bytes → Option (List R × Bytes)
  | 0, _ => none
  | f+1, inp =>
    match readVal f inp with
    | none => none
    | some (x, r) =>
      match r with
      | c :: cs =>
        if c = RP then some ([x], cs)
        else if c = SP then (readItems f cs).map (fun (xs, r') => (x :: xs, r'))
        else none
      | [] => none
end

mutual
/-- fuel that suffices for the readers on a rendering (`read_render`): each reader hands its fuel less one to the calls it
makes, so a list needs one more than its items, and items one more than the head and the rest need (their sum bounds their
maximum) -/
def need : R → Nat
  | .list xs => 1 + needList xs
  | .nil => 1
  | .num _ => 1
  | .quoted _ => 1
  | .literal _ => 1
  | .atom _ => 1
def needList : List R → Nat
  | [] => 0
  | x :: xs => 1 + need x + needList xs
end

theorem span_delim {rest : Bytes} (h : isDelim rest = true) :
    spanDigits rest = ([], rest) ∧ spanAtom false rest = ([], rest) := by
  cases rest with
  | nil => exact ⟨rfl, rfl⟩
  | cons c cs =>
    simp only [isDelim, Bool.or_eq_true, beq_iff_eq] at h
    rcases h with (rfl | rfl) | rfl <;> exact ⟨rfl, rfl⟩

theorem spanAtom_append (d : Bool) (s rest : Bytes) (h : atomShape d s = true) (hr : spanAtom false rest = ([], rest)) :
    spanAtom d (s ++ rest) = (s, rest) := by
  -- the cases are the equations of `atomShape` in order: the end of `s`; outside a section `[`, then any other octet;
  -- inside a section `]`, then any other octet
  fun_induction atomShape d s
  case case1 d =>
    cases d
    · exact hr
    · cases h
  case case2 ih => simp [spanAtom, ih h]
  case case3 hc ih =>
    simp only [Bool.and_eq_true] at h
    simp [spanAtom, hc, h.1, ih h.2]
  case case4 ih => simp [spanAtom, ih h]
  case case5 hc ih =>
    simp only [Bool.and_eq_true, decide_eq_true_eq] at h
    simp [spanAtom, hc, h.1.1, h.1.2, ih h.2]

theorem atomShape_head (c : UInt8) (cs : Bytes) (h : atomShape false (c :: cs) = true) : c ≠ DQ ∧ c ≠ LB ∧ c ≠ LP := by
  simp only [atomShape] at h
  by_cases hc : c = 91
  · subst hc; decide
  · simp only [hc, if_false, Bool.and_eq_true] at h
    refine ⟨?_, ?_, ?_⟩ <;> (rintro rfl; exact absurd h.1 (by decide))

theorem readVal_quote (f : Nat) (s rest : Bytes) (h : QSafe s) :
    readVal (f+1) (quote s ++ rest) = some (.quoted s, rest) := by
  simp [quote, readVal, readQBody_escape s rest h]

theorem readVal_lit (f : Nat) (s rest : Bytes) : readVal (f+1) (lit s ++ rest) = some (.literal s, rest) := by
  have h := readLit_lit s rest
  rw [lit_append] at h ⊢
  simp [readVal, h]

theorem readVal_print (f n : Nat) (rest : Bytes) (hd : isDelim rest = true) :
    readVal (f+1) (print n ++ rest) = some (.num n, rest) := by
  have hsp := spanDigits_append (print n) rest (print_digits n) (span_delim hd).1
  cases h : print n with
  | nil => exact absurd h (print_ne_nil n)
  | cons c cs =>
    have hc : isDigit c = true := print_digits n c (by simp [h])
    have h3 : c ≠ DQ ∧ c ≠ LB ∧ c ≠ LP := by
      refine ⟨?_, ?_, ?_⟩ <;> (rintro rfl; exact absurd hc (by decide))
    rw [h] at hsp
    simp only [List.cons_append] at hsp ⊢
    simp [readVal, h3, hc, hsp, hd, ← h, atoi_print]

/-- atoms and NIL are read by the same branch -/
theorem readVal_word (f : Nat) (s rest : Bytes) (hne : s ≠ []) (hs : atomShape false s = true)
    (hdig : ∀ c, s.head? = some c → isDigit c = false) (hd : isDelim rest = true) :
    readVal (f+1) (s ++ rest) = if s = [78, 73, 76] then some (.nil, rest) else some (.atom s, rest) := by
  have hsp := spanAtom_append false s rest hs (span_delim hd).2
  cases s with
  | nil => exact absurd rfl hne
  | cons c cs =>
    obtain ⟨h1, h2, h3⟩ := atomShape_head c cs hs
    simp only [List.cons_append] at hsp ⊢
    simp [readVal, h1, h2, h3, hdig c rfl, hsp, hd]

theorem readVal_unit (f : Nat) (rest : Bytes) : readVal (f+1) (LP :: RP :: rest) = some (.list [], rest) := by
  simp [readVal]

/-- `readItems` wants a value first and no value starts with `)`: on other input the reader evaluates to `none` -/
theorem readItems_some {f : Nat} {inp : Bytes} {v : List R × Bytes} (h : readItems f inp = some v) :
    ∃ d ds, inp = d :: ds ∧ d ≠ RP := by
  match f, inp with
  | 0, _ | 1, _ | _+2, [] => cases h
  | _+2, d :: ds =>
    refine ⟨d, ds, rfl, ?_⟩
    rintro rfl
    cases h

theorem readVal_paren (f : Nat) (cs : Bytes) (xs : List R) (r : Bytes) (h : readItems f cs = some (xs, r)) :
    readVal (f+1) (LP :: cs) = some (.list xs, r) := by
  obtain ⟨d, ds, rfl, hd⟩ := readItems_some h
  simp [readVal, hd, h]

theorem readItems_last (f : Nat) (inp : Bytes) (x : R) (r : Bytes) (h : readVal f inp = some (x, RP :: r)) :
    readItems (f+1) inp = some ([x], r) := by
  simp [readItems, h]

theorem readItems_more (f : Nat) (inp : Bytes) (x : R) (r : Bytes) (xs : List R) (r' : Bytes)
    (h : readVal f inp = some (x, SP :: r)) (h' : readItems f r = some (xs, r')) :
    readItems (f+1) inp = some (x :: xs, r') := by
  simp [readItems, h, h']

theorem need_pos (r : R) : 0 < need r := by
  cases r <;> simp only [need, Nat.lt_add_one, Nat.add_pos_left]

/-- Both readers recurse on the fuel, so the round trip is an induction on the fuel; the token lemmas above leave only
the list cases to it. -/
theorem read_render (f : Nat) :
    (∀ r rest, WF r → isDelim rest = true → need r ≤ f → readVal f (render r ++ rest) = some (r, rest)) ∧
    (∀ x xs rest, WFList (x :: xs) → needList (x :: xs) ≤ f →
      readItems f (renderList (x :: xs) ++ RP :: rest) = some (x :: xs, rest)) := by
  induction f with
  | zero =>
    refine ⟨fun r _ _ _ hf => ?_, fun x xs _ _ hf => ?_⟩
    · exact absurd (Nat.le_trans (need_pos r) hf) (by decide)
    · exact absurd (Nat.le_trans (Nat.le_trans (Nat.le_add_right 1 _) (Nat.le_add_right _ _)) hf) (by decide)
  | succ f ih =>
    obtain ⟨ihV, ihI⟩ := ih
    refine ⟨fun r rest hw hd hf => ?_, fun x xs rest hw hf => ?_⟩
    · cases r with
      | nil => exact (readVal_word f _ rest (by decide) (by decide) (by rintro _ ⟨⟩; rfl) hd).trans (if_pos rfl)
      | atom s => exact (readVal_word f s rest hw.1 hw.2.1 hw.2.2.1 hd).trans (if_neg hw.2.2.2)
      | num n => exact readVal_print f n rest hd
      | quoted s => exact readVal_quote f s rest hw
      | literal s => exact readVal_lit f s rest
      | list xs =>
        cases xs with
        | nil => exact readVal_unit f rest
        | cons x xs =>
          have := readVal_paren f _ _ _ (ihI x xs rest hw (fuel_parts (y := 0) hf).1)
          simpa [render] using this
    · cases xs with
      | nil => exact readItems_last f _ x rest (ihV x _ hw.1 rfl (fuel_parts hf).1)
      | cons y ys =>
        have h1 := ihV x (SP :: (renderList (y :: ys) ++ RP :: rest)) hw.1 rfl (fuel_parts hf).1
        have h2 := ihI y ys rest hw.2 (fuel_parts hf).2
        have := readItems_more f _ x _ _ _ h1 h2
        simpa [renderList] using this

theorem readVal_render : ∀ (r : R) (rest : Bytes) (f : Nat), WF r → isDelim rest = true → need r ≤ f →
    readVal f (render r ++ rest) = some (r, rest) :=
  fun r rest f => (read_render f).1 r rest

theorem readItems_render : ∀ (x : R) (xs : List R) (rest : Bytes) (f : Nat), WFList (x :: xs) → needList (x :: xs) ≤ f →
    readItems f (renderList (x :: xs) ++ RP :: rest) = some (x :: xs, rest) :=
  fun x xs rest f => (read_render f).2 x xs rest

/-! ## whole responses: the strict recogniser the harness runs on the server's raw byte stream -/
def statusWords : List Bytes := [[79, 75], [78, 79], [66, 65, 68], [66, 89, 69], [80, 82, 69, 65, 85, 84, 72]]  -- OK NO BAD BYE PREAUTH

/-- human-readable text up to CRLF: no NUL, no bare CR or LF -/
def readText : Bytes → Option Bytes
  | [] => none
  | [_] => none
  | c :: d :: rest =>
    if c = CR ∧ d = LF then some rest
    else if c = CR ∨ c = LF ∨ c = 0 then none
    else readText (d :: rest)

/-- `v (SP v)* CRLF` -/
def readValues : Nat → Bytes → Option (List R × Bytes)
  | 0, _ => none
  | f+1, inp =>
    match readVal (f+1) inp with
    | none => none
    | some (x, r) =>
      match r with
      | c :: d :: rest =>
        if c = CR ∧ d = LF then some ([x], rest)
        else if c = SP then (readValues f (d :: rest)).map (fun (xs, r') => (x :: xs, r'))
        else none
      | _ => none

inductive Line where
  | cont                       -- `+ …`
  | status (tag word : Bytes)  -- `tag OK …`, `* NO …`
  | data (vals : List R)       -- `* …` data
deriving Inhabited

def readLine (fuel : Nat) (inp : Bytes) : Option (Line × Bytes) :=
  match inp with
  | 43 :: r => (readText r).map (fun rest => (Line.cont, rest))
  | _ =>
    let (tag, r) := spanAtom false inp
    match r with
    | c :: r1 =>
      if tag = [] ∨ c ≠ SP then none
      else
        let (w, r2) := spanAtom false r1
        if statusWords.contains w then
          match r2 with
          | 13 :: 10 :: rest => some (Line.status tag w, rest)
          | 32 :: r3 => (readText r3).map (fun rest => (Line.status tag w, rest))
          | _ => none
        else if tag = [42] then (readValues fuel r1).map (fun (vs, rest) => (Line.data vs, rest))
        else none
    | [] => none

def readResponse (fuel : Nat) : Nat → Bytes → Option (List Line)
  | 0, _ => none
  | _, [] => some []
  | n+1, inp =>
    match readLine fuel inp with
    | none => none
    | some (l, rest) => (readResponse fuel n rest).map (fun ls => l :: ls)

/-- number of complete lines before the first malformed one (diagnostics) -/
def goodLines (fuel : Nat) : Nat → Bytes → Nat
  | 0, _ => 0
  | _, [] => 0
  | n+1, inp =>
    match readLine fuel inp with
    | none => 0
    | some (_, rest) => 1 + goodLines fuel n rest

end Raven.Resp
