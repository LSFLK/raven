import RavenModel.Model.Mime
/-! The executable reader of a whole message, `Mime.parseMessage` — the function the driver runs on every fetched text
(`mm.observe`) — reads a written message back: `parse_message` is about `parse` with any sufficient fuel; here the fuel
`parseMessage` picks for itself (the length of the text) is shown to suffice, so the theorem is about the very function the
correspondence executes. -/
namespace Raven.Mime
open Raven Raven.GoStr

theorem length_le_flatMap (f : Bytes → Bytes) : ∀ (ps : List Bytes) (p : Bytes), p ∈ ps → (f p).length ≤ (ps.flatMap f).length
  | [], _, h => by simp at h
  | q :: qs, p, h => by
    simp only [List.flatMap_cons, List.length_append]
    rcases List.mem_cons.mp h with rfl | h
    · omega
    · have := length_le_flatMap f qs p h; omega

mutual
theorem depth_le_length : ∀ t : Tree, depth t ≤ (core t).length + 1
  | .leaf t => by simp [depth]
  | .multi h b cs => by
    have := depthList_le_length cs b []
    simp only [depth, core, List.length_append] at *
    omega
theorem depthList_le_length : ∀ (cs : List Tree) (b e : Bytes), depthList cs ≤ (joinBody b (coreList cs) e).length
  | [], _, _ => by simp [depthList]
  | t :: ts, b, e => by
    have h1 := depth_le_length t
    have h2 := depthList_le_length ts b e
    simp only [depthList, coreList, joinBody, List.flatMap_cons, List.length_append, DD, CRLF, List.length_cons, List.length_nil] at *
    omega
end

theorem freshMessage_iff {t : Tree} : freshMessage t = true ↔ freshAt readHeader CRLF t := by
  cases t <;> simp [freshMessage, freshAt, and_assoc]

/-- `parseMessage` does the outermost step itself and gives the parts fuel `text.length + 1`, hence the `+ 2`. Only on a
container: a text that is none `parse` returns as it is, `parseMessage` without its final line end -/
theorem parseMessage_eq_parse (text : Bytes) (h : (readHeader text).isSome = true) :
    parseMessage text = parse readHeader (text.length + 2) text := by
  obtain ⟨x, hx⟩ := Option.isSome_iff_exists.mp h
  simp only [parseMessage, parse, hx]

/-- **the executable reader reads the writer's message back**: every message — a container of any depth, any number of parts,
any octets, or a single entity — that meets the decidable side conditions `freshMessage` -/
theorem parseMessage_written : ∀ t : Tree, freshMessage t = true → parseMessage (message t) = some t
  | .leaf t, hfm => by
    have hK : readHeader (t ++ CRLF) = none := freshMessage_iff.1 hfm
    have hs : hasSuffix (t ++ CRLF) CRLF = true := by
      simpa [hasSuffix] using hasPrefix_append CRLF.reverse t.reverse
    have hlen : (t ++ CRLF).length - 2 = t.length := by simp [CRLF]
    simp only [parseMessage, message, hK, hs, if_true, hlen, List.take_left']
  | .multi h b cs, hfm => by
    obtain ⟨hK, hcl, hfl⟩ := freshMessage_iff.1 hfm
    have hdep := depthList_le_length cs b CRLF
    rw [parseMessage_eq_parse _ (by simp [message, hK])]
    exact parse_message readHeader h b cs _ (by simp only [message, List.length_append]; omega) hK hcl hfl

end Raven.Mime
