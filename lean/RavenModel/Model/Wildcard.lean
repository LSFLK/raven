import RavenModel.Base.Bytes
/-! The wildcard relation of RFC 3501 LIST (`Matches`) and the backtracking matcher the pinned tree had (`wmatch`: the recursive
`doWildcardMatch` of internal/server/utils/pattern.go before repair 98b14d9, with its two shortcuts for a wildcard that ends the
pattern). -/
namespace Wild

def star : UInt8 := 42
def pct  : UInt8 := 37
def delim : UInt8 := 47

inductive Matches : List UInt8 → List UInt8 → Prop
  | nil : Matches [] []
  | star (pre rest ps t) : t = pre ++ rest → Matches ps rest → Matches (star :: ps) t
  | pct (pre rest ps t) : t = pre ++ rest → delim ∉ pre → Matches ps rest → Matches (pct :: ps) t
  | chr (c ps ts) : c ≠ star → c ≠ pct → Matches ps ts → Matches (c :: ps) (c :: ts)

def starLoop (k : List UInt8 → Bool) : List UInt8 → Bool
  | [] => k []
  | d :: ts => k (d :: ts) || starLoop k ts

def pctLoop (k : List UInt8 → Bool) : List UInt8 → Bool
  | [] => k []
  | d :: ts => k (d :: ts) || (if d = delim then false else pctLoop k ts)

def wmatch : List UInt8 → List UInt8 → Bool
  | [], t => t.isEmpty
  | c :: ps, t =>
    if c = star then
      if ps.isEmpty then true else starLoop (wmatch ps) t
    else if c = pct then
      if ps.isEmpty then !(t.contains delim) else pctLoop (wmatch ps) t
    else
      match t with
      | [] => false
      | d :: ts => if d = c then wmatch ps ts else false

/-- the recursion without the two end-of-pattern shortcuts of `wmatch`: the matcher the proofs reason about -/
def wm : List UInt8 → List UInt8 → Bool
  | [], t => t.isEmpty
  | c :: ps, t =>
    if c = star then starLoop (wm ps) t
    else if c = pct then pctLoop (wm ps) t
    else match t with
      | [] => false
      | d :: ts => if d = c then wm ps ts else false

/-- the ways to cut `d :: ts` in two: before `d`, or somewhere in `ts` -/
theorem exists_split_cons {P : List UInt8 → List UInt8 → Prop} (d : UInt8) (ts : List UInt8) :
    (∃ pre rest, d :: ts = pre ++ rest ∧ P pre rest) ↔ P [] (d :: ts) ∨ ∃ pre rest, ts = pre ++ rest ∧ P (d :: pre) rest := by
  constructor
  · rintro ⟨_ | ⟨x, pre⟩, rest, he, h⟩
    · exact .inl (he ▸ h)
    · cases he; exact .inr ⟨pre, rest, rfl, h⟩
  · rintro (h | ⟨pre, rest, rfl, h⟩)
    · exact ⟨[], _, rfl, h⟩
    · exact ⟨d :: pre, rest, rfl, h⟩

theorem starLoop_iff (k : List UInt8 → Bool) (t : List UInt8) :
    starLoop k t = true ↔ ∃ pre rest, t = pre ++ rest ∧ k rest = true := by
  induction t with
  | nil => simp [starLoop, and_assoc]
  | cons d ts ih => simp only [starLoop, Bool.or_eq_true, ih, exists_split_cons]

theorem pctLoop_iff (k : List UInt8 → Bool) (t : List UInt8) :
    pctLoop k t = true ↔ ∃ pre rest, t = pre ++ rest ∧ delim ∉ pre ∧ k rest = true := by
  induction t with
  | nil => simp [pctLoop, and_assoc]
  | cons d ts ih =>
    rw [exists_split_cons, pctLoop, Bool.or_eq_true]
    by_cases hd : d = delim
    · simp [hd]
    · simp [hd, Ne.symm hd, ih]

/-- the recursion follows the clauses of the relation one by one -/
theorem wm_iff (p t : List UInt8) : wm p t = true ↔ Matches p t := by
  induction p generalizing t with
  | nil =>
    constructor
    · intro h; rw [List.isEmpty_iff.mp h]; exact .nil
    · rintro ⟨⟩; rfl
  | cons c ps ih =>
    unfold wm
    by_cases hs : c = star
    · subst hs
      rw [if_pos rfl, starLoop_iff]
      constructor
      · rintro ⟨pre, rest, rfl, h⟩; exact .star _ _ _ _ rfl ((ih _).mp h)
      · intro h
        cases h with
        | star pre rest _ _ he h => exact ⟨pre, rest, he, (ih _).mpr h⟩
        | chr _ _ _ h1 => exact absurd rfl h1
    · rw [if_neg hs]
      by_cases hp : c = pct
      · subst hp
        rw [if_pos rfl, pctLoop_iff]
        constructor
        · rintro ⟨pre, rest, rfl, hn, h⟩; exact .pct _ _ _ _ rfl hn ((ih _).mp h)
        · intro h
          cases h with
          | pct pre rest _ _ he hn h => exact ⟨pre, rest, he, hn, (ih _).mpr h⟩
          | chr _ _ _ _ h2 => exact absurd rfl h2
      · rw [if_neg hp]
        constructor
        · intro h
          split at h
          · cases h
          · split at h
            · next hd => subst hd; exact .chr _ _ _ hs hp ((ih _).mp h)
            · cases h
        · intro h
          cases h with
          | star => exact absurd rfl hs
          | pct => exact absurd rfl hp
          | chr _ _ _ _ _ h => simpa using (ih _).mpr h

theorem starLoop_end (t : List UInt8) : starLoop (wm []) t = true :=
  (starLoop_iff _ _).mpr ⟨t, [], by simp, rfl⟩

theorem pctLoop_end (t : List UInt8) : pctLoop (wm []) t = !(t.contains delim) := by
  rw [Bool.eq_iff_iff, pctLoop_iff]
  simp only [Bool.not_eq_true', ← Bool.not_eq_true, List.contains_iff_mem]
  constructor
  · rintro ⟨pre, rest, rfl, hn, h⟩; simpa [List.isEmpty_iff.mp h] using hn
  · intro hn; exact ⟨t, [], by simp, hn, rfl⟩

/-- the shortcuts (`*` at the end matches anything, `%` at the end anything without the delimiter) change no answer -/
theorem wm_eq_wmatch (p t : List UInt8) : wm p t = wmatch p t := by
  induction p generalizing t with
  | nil => rfl
  | cons c ps ih =>
    have hk : wm ps = wmatch ps := funext ih
    unfold wm wmatch
    cases ps with
    | nil => simp [starLoop_end, pctLoop_end, ih]
    | cons q qs => simp [hk]

theorem wmatch_iff (p t : List UInt8) : wmatch p t = true ↔ Matches p t := by
  rw [← wm_eq_wmatch, wm_iff]
end Wild
