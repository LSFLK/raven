import RavenModel.Base.Bytes
/-! `parser.extractAllHeaders` and the header re-rendering loop of `ReconstructMessage…` (C02.1). Lines are the physical lines of the
header block, already split and stripped of CR LF. -/
namespace Raven.Hdr
open Raven

def isWs (c : UInt8) : Bool := c = 32 || (9 ≤ c && c ≤ 13)
def trimL : Bytes → Bytes
  | [] => []
  | c :: cs => if isWs c then trimL cs else c :: cs
def trimR (s : Bytes) : Bytes := (trimL s.reverse).reverse
def trim (s : Bytes) : Bytes := trimR (trimL s)

/-- split at the first colon -/
def cut : Bytes → Option (Bytes × Bytes)
  | [] => none
  | c :: cs => if c = 58 then some ([], cs) else (cut cs).map (fun p => (c :: p.1, p.2))

def isCont (l : Bytes) : Bool := match l with
  | c :: _ => c = 32 || c = 9
  | [] => false

/-- a stored header: name, and the value as its list of physical lines (first line trimmed, continuation lines raw);
    the Go code keeps them joined with CRLF in one string -/
structure H where
  name : Bytes
  lines : List Bytes
deriving Repr, DecidableEq

/-- mirrors extractAllHeaders on the header block (the lines before the first empty line).
    `cur` = header being accumulated (its lines reversed) -/
def extract : Option (Bytes × List Bytes) → List Bytes → List H
  | cur, [] => match cur with
    | some (n, ls) => [⟨n, ls.reverse⟩]
    | none => []
  | cur, l :: rest =>
    if isCont l then
      match cur with
      | some (n, ls) => extract (some (n, l :: ls)) rest
      | none => extract none rest                       -- continuation of a malformed line: dropped
    else
      let flush : List H := match cur with
        | some (n, ls) => [⟨n, ls.reverse⟩]
        | none => []
      match cut l with
      | some (n, v) => flush ++ extract (some (trim n, [trim v])) rest
      | none => flush ++ extract none rest              -- malformed header line: skipped

/-- mirrors the "%s: %s\r\n" loop (value lines re-joined with CRLF), as physical lines -/
def renderH (h : H) : List Bytes := match h.lines with
  | [] => [h.name ++ [58, 32]]
  | v :: more => (h.name ++ [58, 32] ++ v) :: more
def render (hs : List H) : List Bytes := hs.flatMap renderH

/-- what the property allows to change: white space around the name and around the first-line value -/
def normalise (l : Bytes) : Bytes :=
  if isCont l then l else
  match cut l with
  | some (n, v) => trim n ++ [58, 32] ++ trim v
  | none => l

def WellFormed (ls : List Bytes) : Prop :=
  (∀ l ∈ ls, isCont l = true ∨ (cut l).isSome) ∧ (match ls with | l :: _ => isCont l = false | [] => True)

/-- order, names and values of the header fields survive storage; only surrounding white space changes -/
theorem render_extract (cur : Option (Bytes × List Bytes)) (ls : List Bytes)
    (h : ∀ l ∈ ls, isCont l = true ∨ (cut l).isSome)
    (hcur : match cur with | some (_, acc) => acc ≠ [] | none => ∀ l ∈ ls.take 1, isCont l = false) :
    render (extract cur ls) =
      (match cur with | some (n, acc) => renderH ⟨n, acc.reverse⟩ | none => []) ++ ls.map normalise := by
  fun_induction extract cur ls
  case case1 => simp [render]     -- no line left, a header pending
  case case2 => simp [render]     -- no line left, none pending
  case case3 l rest hc n acc ih =>
    -- a continuation line joins the pending header, which has its first line already
    obtain ⟨v, more, hr⟩ := List.exists_cons_of_ne_nil (show acc.reverse ≠ [] by simpa using hcur)
    simp [ih (fun x hx => h x (by simp [hx])) (by simp), hc, normalise, renderH, hr]
  case case4 l rest hc ih => simp [hcur l (by simp)] at hc     -- a continuation line with no header pending: `hcur` excludes it
  case case5 cur l rest hc flush n v hcv ih =>
    -- a new header line flushes the pending header
    have ih' := ih (fun x hx => h x (by simp [hx])) (by simp)
    simp only [render] at ih' ⊢
    rcases cur with _ | ⟨n, acc⟩ <;> simp [flush, hc, hcv, ih', normalise, renderH]
  case case6 cur l rest hc flush hcv ih => simp [hc, hcv] at h     -- a line that is no header line: `h` excludes it
end Raven.Hdr
