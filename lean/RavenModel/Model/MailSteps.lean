import RavenModel.Model.Mail
import RavenModel.Base.Lists
/-! The mailbox machine's operations and histories, and every operation as a composition of five primitive mutations (`Prim`,
`Steps`): links of one mailbox removed or re-flagged, a UID allocated, a mailbox record appended under a fresh incarnation
number and UIDVALIDITY, mailboxes dropped, mailboxes renamed. A fact about every history is proved for the primitives and
lifted by `run_rel`. CREATE, DELETE and RENAME each have one equation or case lemma (`create_eq`, `delete_eq`,
`rename_cases`) through which everything else about them goes. -/
namespace Raven.Mail
open Raven Raven.GoStr

inductive Op where
  | add (box : Bytes) (msg : Nat) (flags : List Bytes)            -- LMTP delivery / APPEND
  | copy (src : Bytes) (ranks : List Nat) (dst : Bytes)
  | uidCopy (src : Bytes) (uids : List Nat) (dst : Bytes)
  | store (box : Bytes) (new : List Bytes) (mode : Flags.Mode) (ranks : List Nat)
  | uidStore (box : Bytes) (new : List Bytes) (mode : Flags.Mode) (uids : List Nat)
  | expunge (box : Bytes)                                          -- also CLOSE
  | uidExpunge (box : Bytes) (uids : List Nat)
  | create (arg : Bytes) (now : Nat)
  | delete (arg : Bytes)
  | rename (o n : Bytes) (now : Nat)
  | subscribe (arg : Bytes)
  | unsubscribe (arg : Bytes)

def step (s : Store) : Op → Store
  | .add b m f => (s.add b m f).1
  | .copy a r d => (s.copy a r d).1
  | .uidCopy a u d => (s.uidCopy a u d).1
  | .store b n m r => (s.storeSeq b n m r).1
  | .uidStore b n m u => (s.storeUid b n m u).1
  | .expunge b => (s.expunge b).1
  | .uidExpunge b u => (s.uidExpunge b u).1
  | .create a now => (s.create a now).1
  | .delete a => (s.delete a).1
  | .rename o n now => (s.rename o n now).1
  | .subscribe a => (s.subscribe a).1
  | .unsubscribe a => (s.unsubscribe a).1

def run (s : Store) (ops : List Op) : Store := ops.foldl step s

theorem run_append (s : Store) (ops more : List Op) : run s (ops ++ more) = run (run s ops) more := List.foldl_append

def Op.isSubOp : Op → Bool
  | .subscribe _ => true
  | .unsubscribe _ => true
  | _ => false

theorem find_mem {s : Store} {n : Bytes} {b : Mbox} (h : s.find n = some b) : b ∈ s.boxes :=
  List.mem_of_find?_eq_some h

theorem find_name {s : Store} {n : Bytes} {b : Mbox} (h : s.find n = some b) : b.name = n := by
  simpa using List.find?_some h

def Store.names (s : Store) : List Bytes := s.boxes.map (·.name)

theorem has_iff (s : Store) (n : Bytes) : s.has n = true ↔ n ∈ s.names := by
  simp only [Store.has, Store.names, List.any_eq_true, decide_eq_true_eq, List.mem_map]

structure Shrinks (g : List Link → List Link) : Prop where
  sub : ∀ ls, ((g ls).map (·.uid)).Sublist (ls.map (·.uid))
  same : ∀ ls, ∀ l' ∈ g ls, ∃ l ∈ ls, l.uid = l'.uid ∧ l.msg = l'.msg

def Store.mapLinks (s : Store) (n : Bytes) (g : List Link → List Link) : Store :=
  s.modify n (fun b => { b with links := g b.links })

theorem shrinks_filter (p : Link → Bool) : Shrinks (fun ls => ls.filter p) :=
  ⟨fun _ => List.Sublist.map _ List.filter_sublist, fun _ l' hl' => ⟨l', (List.mem_filter.mp hl').1, rfl, rfl⟩⟩

theorem shrinks_nil : Shrinks (fun _ => []) := ⟨fun _ => List.nil_sublist _, fun _ _ h => nomatch h⟩

theorem shrinks_mapFlags (f : Link → List Bytes) : Shrinks (fun ls => ls.map (fun l => { l with flags := f l })) :=
  ⟨fun ls => by rw [List.map_map]; exact List.Sublist.refl _,
   fun ls l' hl' => by obtain ⟨l, hl, rfl⟩ := List.mem_map.mp hl'; exact ⟨l, hl, rfl, rfl⟩⟩

theorem shrinks_mapIf (c : Link → Prop) [DecidablePred c] (fl : List Bytes) :
    Shrinks (fun ls => ls.map (fun x => if c x then { x with flags := fl } else x)) := by
  have : (fun ls : List Link => ls.map (fun x => if c x then { x with flags := fl } else x)) =
      fun ls => ls.map (fun l => { l with flags := if c l then fl else l.flags }) :=
    funext fun ls => List.map_congr_left fun x _ => by split <;> rfl
  rw [this]; exact shrinks_mapFlags _

/-- a mailbox record appended under the store's next incarnation number and a fresh UIDVALIDITY; links it takes over
(RENAME INBOX) are entered in the log under the new incarnation -/
def Store.pushBox (s : Store) (nb : Mbox) (now : Nat) : Store :=
  { s with boxes := s.boxes ++ [nb], nextInc := s.nextInc + 1, vseq := s.freshValidity now, log := relog nb ++ s.log }

/-- the mutations every operation other than SUBSCRIBE / UNSUBSCRIBE is composed of -/
inductive Prim : Store → Store → Prop
  /-- links removed, or flags rewritten, in one mailbox -/
  | links (s : Store) (n : Bytes) {g : List Link → List Link} (hg : Shrinks g) : Prim s (s.mapLinks n g)
  /-- the next UID of an existing mailbox allocated: the link appended, the assignment logged -/
  | add (s : Store) (n : Bytes) (msg : Nat) (fl : List Bytes) {b : Mbox} (hf : s.find n = some b) :
      Prim s { s.modify n (·.push msg fl) with log := b.entry msg :: s.log }
  /-- a new mailbox record, empty (CREATE) or continuing the links and UIDNEXT of an existing mailbox (RENAME INBOX) -/
  | push (s : Store) (nb : Mbox) (now : Nat) (hname : s.has nb.name = false) (hinc : nb.inc = s.nextInc)
      (hval : nb.validity = s.freshValidity now)
      (hlinks : nb.links = [] ∨ ∃ b ∈ s.boxes, nb.links = b.links ∧ nb.uidNext = b.uidNext) : Prim s (s.pushBox nb now)
  | drop (s : Store) (p : Mbox → Bool) : Prim s { s with boxes := s.boxes.filter p }
  | rename (s : Store) (f : Mbox → Bytes) (hn : ((s.boxes.map (fun b => { b with name := f b })).map (·.name)).Nodup) :
      Prim s { s with boxes := s.boxes.map (fun b => { b with name := f b }) }

inductive Steps : Store → Store → Prop
  | refl (s : Store) : Steps s s
  | head {s t u : Store} : Prim s t → Steps t u → Steps s u

theorem Prim.steps {s t : Store} (h : Prim s t) : Steps s t := .head h (.refl t)

theorem Steps.trans {a b c : Store} (h1 : Steps a b) (h2 : Steps b c) : Steps a c := by
  induction h1 with
  | refl => exact h2
  | head p _ ih => exact .head p (ih h2)

theorem Steps.rel {R : Store → Store → Prop} (refl : ∀ s, R s s) (trans : ∀ {a b c}, R a b → R b c → R a c)
    (prim : ∀ {s t}, Prim s t → R s t) {s t : Store} (h : Steps s t) : R s t := by
  induction h with
  | refl s => exact refl s
  | head p _ ih => exact trans (prim p) ih

theorem steps_add (s : Store) (n : Bytes) (msg : Nat) (fl : List Bytes) : Steps s (s.add n msg fl).1 := by
  unfold Store.add
  cases hf : s.find n with
  | none => exact .refl s
  | some b => exact (Prim.add s n msg fl hf).steps

theorem steps_addMany (s : Store) (n : Bytes) (items : List (Nat × List Bytes)) : Steps s (s.addMany n items) := by
  induction items generalizing s with
  | nil => exact .refl s
  | cons it rest ih => exact (steps_add s n it.1 it.2).trans (ih _)

theorem Steps.ite {α} {s : Store} {c : Prop} [Decidable c] {a b : Store × α} (ha : Steps s a.1) (hb : Steps s b.1) :
    Steps s (if c then a else b).1 := by
  split <;> assumption

theorem steps_copy (s : Store) (src : Bytes) (ranks : List Nat) (dst : Bytes) : Steps s (s.copy src ranks dst).1 := by
  unfold Store.copy
  cases s.find src with
  | none => exact .refl s
  | some sb => exact .ite (.refl s) (.ite (.refl s) (.ite (.refl s) (steps_addMany _ _ _)))

theorem steps_uidCopy (s : Store) (src : Bytes) (uids : List Nat) (dst : Bytes) : Steps s (s.uidCopy src uids dst).1 := by
  unfold Store.uidCopy
  cases s.find src with
  | none => exact .refl s
  | some sb => exact .ite (.refl s) (.ite (.refl s) (steps_addMany _ _ _))

theorem steps_move {s s' : Store} {src : Bytes} {l : Link} {dst : Bytes} {fl : List Bytes}
    (h : s.move src l dst fl = some s') : Steps s s' := by
  unfold Store.move at h
  split at h
  · cases h
  · split at h
    · cases h
    · cases h
      exact (steps_add s dst l.msg fl).trans (Prim.links _ src (shrinks_filter _)).steps

theorem steps_storeOne (s : Store) (box : Bytes) (l : Link) (rank : Nat) (new : List Bytes) (mode : Flags.Mode) :
    Steps s (s.storeOne box l rank new mode).1 := by
  have hset : Steps s (s.modify box (fun b => { b with links := b.links.map (fun x =>
      if x.uid = l.uid then { x with flags := Flags.newFlags l.flags new mode } else x) })) :=
    (Prim.links s box (shrinks_mapIf _ _)).steps
  have hmove (dst fl) (n : List Note) {k : Store × List Note} (hk : Steps s k.1) :
      Steps s (match s.move box l dst fl with | some s' => (s', n) | none => k).1 := by
    cases h : s.move box l dst fl with
    | none => exact hk
    | some s' => exact steps_move h
  exact .ite (hmove _ _ _ hset) (.ite (hmove _ _ _ hset) hset)

theorem steps_storeUid (s : Store) (box : Bytes) (new : List Bytes) (mode : Flags.Mode) (uids : List Nat) :
    Steps s (s.storeUid box new mode uids).1 := by
  induction uids generalizing s with
  | nil => exact .refl s
  | cons u us ih =>
    unfold Store.storeUid
    split
    · exact ih s
    · exact (steps_storeOne s box _ _ new mode).trans (ih _)

theorem steps_storeSeq (s : Store) (box : Bytes) (new : List Bytes) (mode : Flags.Mode) (ranks : List Nat) :
    Steps s (s.storeSeq box new mode ranks).1 := by
  unfold Store.storeSeq
  split
  · exact .refl s
  · exact steps_storeUid s box new mode _

theorem steps_expungeBy (s : Store) (box : Bytes) (doomed : Link → Bool) : Steps s (s.expungeBy box doomed).1 := by
  unfold Store.expungeBy
  split
  · exact .refl s
  · exact (Prim.links s box (shrinks_filter _)).steps

theorem steps_newBox (s : Store) (n : Bytes) (now : Nat) : Steps s (s.newBox n now) := by
  unfold Store.newBox
  split
  · exact .refl s
  · rename_i h
    -- `newBox` leaves the log alone and so does `pushBox` here: an empty mailbox has nothing to enter (`relog` of no links)
    exact (Prim.push s { name := n, validity := s.freshValidity now, uidNext := 1, links := [], inc := s.nextInc } now
      (by simpa using fun hh => h (Or.inr hh)) rfl rfl (.inl rfl)).steps

theorem steps_newBoxes (s : Store) (ns : List Bytes) (now : Nat) : Steps s (s.newBoxes ns now) := by
  induction ns generalizing s with
  | nil => exact .refl s
  | cons n ns ih => exact (steps_newBox s n now).trans (ih _)

/-- stated for any `n` equal to the name CREATE stores, so that `createdName arg` (Names) fits by `rfl` -/
theorem create_eq (s : Store) (arg : Bytes) (now : Nat) {n : Bytes} (hn : n = trimSuffix (trimQuotes arg) slash) :
    s.create arg now =
      if n ≠ [] ∧ toUpper n ≠ inboxName ∧ underRoles n = false ∧ s.has n = false
      then ((s.newBoxes (ancestors n) now).newBox n now, .ok) else (s, .no) := by
  subst hn
  fun_cases Store.create s arg now <;> simp +zetaDelta [*]

theorem steps_create (s : Store) (arg : Bytes) (now : Nat) : Steps s (s.create arg now).1 := by
  rw [create_eq s arg now rfl]
  exact .ite ((steps_newBoxes s _ now).trans (steps_newBox _ _ now)) (.refl s)

theorem delete_eq (s : Store) (arg : Bytes) :
    s.delete arg =
      if trimQuotes arg ≠ [] ∧ toUpper (trimQuotes arg) ≠ inboxName ∧ s.has (trimQuotes arg) = true ∧
          s.boxes.any (fun b => isChildOf (trimQuotes arg) b.name) = false ∧
          protectedNames.any (fun p => equalFold (trimQuotes arg) p) = false
      then ({ s with boxes := s.boxes.filter (fun b => b.name ≠ trimQuotes arg) }, .ok)
      else (s, if trimQuotes arg = [] then .bad else .no) := by
  unfold Store.delete
  dsimp only
  by_cases h1 : trimQuotes arg = []
  · simp only [h1, if_true, ne_eq, not_true_eq_false, false_and, if_false]
  by_cases h2 : toUpper (trimQuotes arg) = inboxName
  · simp only [h1, h2, if_true, if_false, ne_eq, not_true_eq_false, false_and, and_false]
  simp only [h1, h2, ne_eq, not_false_eq_true, true_and, if_false]
  -- three Boolean tests are left: the chain of refusals against their conjunction
  generalize s.has (trimQuotes arg) = a, s.boxes.any (fun b => isChildOf (trimQuotes arg) b.name) = b,
    protectedNames.any (fun p => equalFold (trimQuotes arg) p) = c
  cases a <;> cases b <;> cases c <;> rfl

theorem steps_delete (s : Store) (arg : Bytes) : Steps s (s.delete arg).1 := by
  rw [delete_eq]
  exact .ite (Prim.drop s _).steps (.refl s)

/-- the ways a RENAME ends: refused with the store as it was; a new mailbox that takes over INBOX's links and continues its
UID sequence, INBOX left empty; otherwise the missing ancestors created and then, unless two names would collide, the subtree
renamed -/
theorem rename_cases (s : Store) (oa na : Bytes) (now : Nat) (P : Store × Res → Prop)
    (refused : ∀ r, r ≠ .ok → P (s, r))
    (inbox : toUpper (trimQuotes oa) = inboxName → ∀ ib, s.find inboxName = some ib → s.has (trimQuotes na) = false →
      P ((s.pushBox { ib with name := trimQuotes na, validity := s.freshValidity now, inc := s.nextInc } now).mapLinks
          inboxName (fun _ => []), .ok))
    (other : toUpper (trimQuotes oa) ≠ inboxName →
      let s1 := s.newBoxes (ancestors (trimQuotes na)) now
      let renamed := s1.boxes.map (fun b => { b with name := renamedName (trimQuotes oa) (trimQuotes na) b.name })
      (namesNodup renamed = true → P ({ s1 with boxes := renamed }, .ok)) ∧ (namesNodup renamed = false → P (s1, .no))) :
    P (s.rename oa na now) := by
  -- the leaves of `Store.rename` in the order of its text: the sixth is RENAME INBOX, the last two the collision test
  fun_cases Store.rename s oa na now
  case case6 h3 h4 h5 ib h6 _ =>
    have hne : trimQuotes na ≠ inboxName := fun e => h3 (show toUpper (trimQuotes na) = inboxName by rw [e]; decide)
    simpa +zetaDelta only [Store.pushBox, Store.mapLinks, Store.modify, List.map_append, List.map_cons, List.map_nil, if_neg hne]
      using inbox h4 ib h6 (by simpa using h5)
  case case9 h4 _ _ _ _ h => exact (other h4).1 h
  case case10 h4 _ _ _ _ h => exact (other h4).2 (by simpa using h)
  -- every other branch answers NO or BAD with the store as it was
  all_goals exact refused _ nofun

theorem steps_rename (s : Store) (oa na : Bytes) (now : Nat) : Steps s (s.rename oa na now).1 := by
  refine rename_cases s oa na now (fun r => Steps s r.1) (fun _ _ => .refl s) (fun _ ib hib hn => ?_)
    (fun _ => ⟨fun h => ?_, fun _ => ?_⟩)
  · exact .head (.push s { ib with name := trimQuotes na, validity := s.freshValidity now, inc := s.nextInc } now hn rfl rfl
      (.inr ⟨ib, find_mem hib, rfl, rfl⟩)) (Prim.links _ inboxName shrinks_nil).steps
  · exact (steps_newBoxes s _ now).trans (Prim.rename _ _ (by simpa [namesNodup] using h)).steps
  · exact steps_newBoxes s _ now

theorem steps_step (s : Store) (op : Op) (h : op.isSubOp = false) : Steps s (step s op) := by
  cases op with
  | add b m f => exact steps_add s b m f
  | copy a r d => exact steps_copy s a r d
  | uidCopy a u d => exact steps_uidCopy s a u d
  | store b n m r => exact steps_storeSeq s b n m r
  | uidStore b n m u => exact steps_storeUid s b n m u
  | expunge b => exact steps_expungeBy s b _
  | uidExpunge b u => exact steps_expungeBy s b _
  | create a now => exact steps_create s a now
  | delete a => exact steps_delete s a
  | rename o n now => exact steps_rename s o n now
  | subscribe a => cases h
  | unsubscribe a => cases h

theorem subOp_step (s : Store) (op : Op) (h : op.isSubOp = true) : step s op = { s with subs := (step s op).subs } := by
  cases op with
  | subscribe a =>
    simp only [step]
    fun_cases Store.subscribe s a
    · rfl
    · split <;> rfl
  | unsubscribe a => simp only [step]; fun_cases Store.unsubscribe s a <;> rfl
  | _ => cases h

theorem step_rel {R : Store → Store → Prop} (refl : ∀ s, R s s) (trans : ∀ {a b c}, R a b → R b c → R a c)
    (prim : ∀ {s t}, Prim s t → R s t) (subs : ∀ s x, R s { s with subs := x }) (s : Store) (op : Op) : R s (step s op) := by
  cases h : op.isSubOp
  · exact (steps_step s op h).rel refl trans prim
  · rw [subOp_step s op h]; exact subs s _

theorem run_rel {R : Store → Store → Prop} (refl : ∀ s, R s s) (trans : ∀ {a b c}, R a b → R b c → R a c)
    (prim : ∀ {s t}, Prim s t → R s t) (subs : ∀ s x, R s { s with subs := x }) : ∀ (ops : List Op) (s : Store), R s (run s ops)
  | [], s => refl s
  | op :: ops, s => trans (step_rel refl trans prim subs s op) (run_rel refl trans prim subs ops _)

end Raven.Mail
