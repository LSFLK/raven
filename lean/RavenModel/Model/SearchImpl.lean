import RavenModel.Model.Search
/-! The concrete layer of SEARCH: tokeniser, token classification, the message-dependent primitives over a message view
(sequence number, UID, flag tokens, dates, the reconstructed text), and the whole command. -/
namespace Raven.Search
open Raven Raven.GoStr

/-- `parseSearchTokens`: blanks separate tokens except inside quotes and parentheses -/
def tokAux : Bytes → Bool → Int → Bytes → List Bytes
  | [], _, _, cur => if cur.isEmpty then [] else [cur.reverse]
  | c :: cs, inQ, par, cur =>
    if c = b_dq then tokAux cs (!inQ) par (c :: cur)
    else if c = b_lp then tokAux cs inQ (if inQ then par else par + 1) (c :: cur)
    else if c = b_rp then tokAux cs inQ (if inQ then par else par - 1) (c :: cur)
    else if c = b_sp ∨ c = b_tab then
      if inQ ∨ par > 0 then tokAux cs inQ par (c :: cur)
      else if cur.isEmpty then tokAux cs inQ par cur else cur.reverse :: tokAux cs inQ par []
    else tokAux cs inQ par (c :: cur)
def tokenise (s : Bytes) : List Bytes := tokAux s false 0 []

notation "b_rp'" => (41 : UInt8)

/-- `isSequenceSet` on the upper-cased token: digits, `:`, `*`, `,`; starting with a digit or `*` -/
def isSeqSetTok (t : Bytes) : Bool :=
  t.all (fun c => isDigit c || c = b_colon || c = b_star || c = b_comma) &&
  (match t with | c :: _ => isDigit c || c = b_star | [] => false)

def kw0Names : List Bytes :=
  [(b!"ALL"), (b!"ANSWERED"), (b!"DELETED"), (b!"DRAFT"), (b!"FLAGGED"), (b!"NEW"), (b!"OLD"), (b!"RECENT"), (b!"SEEN"),
   (b!"UNANSWERED"), (b!"UNDELETED"), (b!"UNDRAFT"), (b!"UNFLAGGED"), (b!"UNSEEN")]
def kw1Names : List Bytes :=
  [(b!"BCC"), (b!"CC"), (b!"FROM"), (b!"SUBJECT"), (b!"TO"), (b!"BODY"), (b!"TEXT"), (b!"KEYWORD"), (b!"UNKEYWORD"), (b!"LARGER"),
   (b!"SMALLER"), (b!"UID"), (b!"BEFORE"), (b!"ON"), (b!"SINCE"), (b!"SENTBEFORE"), (b!"SENTON"), (b!"SENTSINCE")]

def classify (t : Bytes) : Tok :=
  let u := toUpper t
  if isSeqSetTok u then .seq u
  else if kw0Names.contains u then .kw0 u
  else if kw1Names.contains u then .kw1 u
  else if u = b!"HEADER" then .hdr
  else if u = b!"NOT" then .notT
  else if u = b!"OR" then .orT
  else .other t

/-- `searchGroup`: what is between the parentheses of a token that begins with `(` and ends with `)` -/
def groupInner (t : Bytes) : Option Bytes :=
  if t.length ≥ 2 ∧ t.head? = some b_lp ∧ t.getLast? = some b_rp then some ((t.drop 1).take (t.length - 2)) else none

/-- a token with the tokens inside its parentheses (the code tokenises the inside again when it evaluates the group); the
fuel bounds the nesting depth, the length of the text always suffices -/
def classifyDeep : Nat → Bytes → Tok
  | 0, t => classify t
  | f + 1, t =>
    match classify t with
    | .other x =>
      (match groupInner x with
       | some inner => .group x ((tokenise inner).map (classifyDeep f))
       | none => .other x)
    | k => k

def tokens (criteria : Bytes) : List Tok := (tokenise criteria).map (classifyDeep criteria.length)

/-- the text of a token when it stands in argument position -/
def Tok.text : Tok → Bytes
  | .seq s => s | .kw0 a => a | .kw1 a => a | .hdr => b!"HEADER" | .notT => b!"NOT" | .orT => b!"OR" | .other x => x
  | .group raw _ => raw

/-- `unquote` -/
def unquote (s0 : Bytes) : Bytes :=
  let s := trimSpace s0
  if s.length ≥ 2 ∧ s.head? = some b_dq ∧ s.getLast? = some b_dq then (s.drop 1).take (s.length - 2) else s

/-! ### sequence / UID sets inside SEARCH: `n`, `a:b` in either order, `*` = the largest number in use, comma lists -/
def endVal (mx : Nat) (e : Bytes) : Option Nat := if e = [b_star] then some mx else Dec.atoi e
def partMatches (n mx : Nat) (part : Bytes) : Bool :=
  match splitOn b_colon part with
  | [a] => endVal mx a = some n
  | [a, b] => (match endVal mx a, endVal mx b with
      | some x, some y => decide (min x y ≤ n ∧ n ≤ max x y)
      | _, _ => false)
  | _ => false
def setMatches (n mx : Nat) (set : Bytes) : Bool := (splitOn b_comma set).any (partMatches n mx)

/-! ### the message view -/
structure Msg where
  seq : Nat
  uid : Nat
  flags : List Bytes
  idate : Nat × Nat × Nat        -- internal date (y, m, d)
  sdate : Option (Nat × Nat × Nat) -- Date header, when it parses
  raw : Bytes                    -- the reconstructed message
  maxSeq : Nat
  maxUid : Nat

def hasFlag (m : Msg) (f : Bytes) : Bool := m.flags.any (fun x => equalFold x f)

/-- physical header lines (before the first empty line), CR stripped -/
def headerLines (raw : Bytes) : List Bytes :=
  ((splitOn b_lf raw).map (fun l => if l.getLast? = some b_cr then l.dropLast else l)).takeWhile (· ≠ [])

/-- `headerContains`: the values of every field of that name, continuation lines joined by one blank, compared case-insensitively -/
def headerValueAux (name : Bytes) : List Bytes → Bool → Bytes → Bytes
  | [], _, acc => acc
  | l :: ls, inT, acc =>
    if (match l with | c :: _ => c = b_sp || c = b_tab | [] => false) then
      headerValueAux name ls inT (if inT then acc ++ [b_sp] ++ trimSpace l else acc)
    else if hasPrefix (toUpper l) (toUpper name ++ [b_colon]) then
      headerValueAux name ls true (acc ++ trimSpace (l.drop (name.length + 1)))
    else headerValueAux name ls false acc
def headerContains (raw name s : Bytes) : Bool :=
  containsSub (toUpper (headerValueAux name (headerLines raw) false [])) (toUpper s)
def hasHeader (raw name : Bytes) : Bool :=
  (headerLines raw).any (fun l => hasPrefix (toUpper l) (toUpper name ++ [b_colon]))

/-- the part from the first blank line on (`rawMsg[headerEnd:]`) -/
def bodyFrom : Bytes → Bytes
  | 13 :: 10 :: 13 :: 10 :: r => 13 :: 10 :: 13 :: 10 :: r
  | _ :: r => bodyFrom r
  | [] => []

/-- `d-Mon-yyyy` -/
def monthOf (m : Bytes) : Option Nat :=
  let names : List Bytes := [(b!"JAN"), (b!"FEB"), (b!"MAR"), (b!"APR"), (b!"MAY"), (b!"JUN"), (b!"JUL"), (b!"AUG"), (b!"SEP"), (b!"OCT"), (b!"NOV"), (b!"DEC")]
  (names.findIdx? (· = toUpper m)).map (· + 1)
def parseDate (s : Bytes) : Option (Nat × Nat × Nat) :=
  match splitOn 45 s with
  | [d, m, y] => (match Dec.atoi d, monthOf m, Dec.atoi y with
      | some dd, some mm, some yy => if 1 ≤ dd ∧ dd ≤ 31 ∧ d.length ≤ 2 ∧ y.length = 4 then some (yy, mm, dd) else none
      | _, _, _ => none)
  | _ => none
def dateLt (a b : Nat × Nat × Nat) : Bool :=
  a.1 < b.1 || (a.1 = b.1 && (a.2.1 < b.2.1 || (a.2.1 = b.2.1 && a.2.2 < b.2.2)))
def dateCmp (cmp : Bytes) (msgDate : Nat × Nat × Nat) (arg : Bytes) : Bool :=
  match parseDate (unquote arg) with
  | none => false
  | some t =>
    if cmp = b!"BEFORE" then dateLt msgDate t
    else if cmp = b!"ON" then msgDate = t
    else if cmp = b!"SINCE" then !(dateLt msgDate t)
    else false

/-- the primitives of one message -/
def primOf (m : Msg) : Prim where
  seqOK s := setMatches m.seq m.maxSeq s
  a0 a :=
    if a = b!"ALL" then true
    else if a = b!"ANSWERED" then hasFlag m (b!"\\Answered")
    else if a = b!"DELETED" then hasFlag m (b!"\\Deleted")
    else if a = b!"DRAFT" then hasFlag m (b!"\\Draft")
    else if a = b!"FLAGGED" then hasFlag m (b!"\\Flagged")
    else if a = b!"NEW" then hasFlag m (b!"\\Recent") && !hasFlag m (b!"\\Seen")
    else if a = b!"OLD" then !hasFlag m (b!"\\Recent")
    else if a = b!"RECENT" then hasFlag m (b!"\\Recent")
    else if a = b!"SEEN" then hasFlag m (b!"\\Seen")
    else if a = b!"UNANSWERED" then !hasFlag m (b!"\\Answered")
    else if a = b!"UNDELETED" then !hasFlag m (b!"\\Deleted")
    else if a = b!"UNDRAFT" then !hasFlag m (b!"\\Draft")
    else if a = b!"UNFLAGGED" then !hasFlag m (b!"\\Flagged")
    else if a = b!"UNSEEN" then !hasFlag m (b!"\\Seen")
    else true
  a1 a x :=
    let arg := x.text
    if a = b!"KEYWORD" then hasFlag m (unquote arg)
    else if a = b!"UNKEYWORD" then !hasFlag m (unquote arg)
    else if a = b!"LARGER" then (match Dec.atoiGo arg with | some n => decide ((m.raw.length : Int) > n) | none => false)
    else if a = b!"SMALLER" then (match Dec.atoiGo arg with | some n => decide ((m.raw.length : Int) < n) | none => false)
    else if a = b!"UID" then setMatches m.uid m.maxUid (toUpper arg)
    else if a = b!"FROM" then headerContains m.raw (b!"From") (unquote arg)
    else if a = b!"TO" then headerContains m.raw (b!"To") (unquote arg)
    else if a = b!"CC" then headerContains m.raw (b!"Cc") (unquote arg)
    else if a = b!"BCC" then headerContains m.raw (b!"Bcc") (unquote arg)
    else if a = b!"SUBJECT" then headerContains m.raw (b!"Subject") (unquote arg)
    else if a = b!"BODY" then containsSub (toUpper (bodyFrom m.raw)) (toUpper (unquote arg))
    else if a = b!"TEXT" then containsSub (toUpper m.raw) (toUpper (unquote arg))
    else if a = b!"BEFORE" ∨ a = b!"ON" ∨ a = b!"SINCE" then dateCmp a m.idate arg
    else if a = b!"SENTBEFORE" ∨ a = b!"SENTON" ∨ a = b!"SENTSINCE" then
      (match m.sdate with | some d => dateCmp (a.drop 4) d arg | none => false)
    else false
  h2 f v :=
    let name := unquote f.text
    let s := unquote v.text
    if s = [] then hasHeader m.raw name else headerContains m.raw name s

inductive Answer where
  | bad                       -- unsupported key / charset / missing argument: an error, not a wrong result
  | hits (ns : List Nat)
deriving DecidableEq, Repr

def fuelFor (criteria : Bytes) : Nat := 2 * criteria.length + 4

def hitsOf (uidMode : Bool) (md : Mode) (fuel : Nat) (toks : List Tok) (box : List Msg) : List Nat :=
  (box.filter (fun m => (evalKeys (primOf m) md fuel toks).getD false)).map (fun m => if uidMode then m.uid else m.seq)

/-- a message on which well-formedness is judged (it does not depend on the message: `Search.wellformed_indep`) -/
def noMsg : Msg := { seq := 0, uid := 0, flags := [], idate := (0, 0, 0), sdate := none, raw := [], maxSeq := 0, maxUid := 0 }

def wellFormed (md : Mode) (fuel : Nat) (toks : List Tok) : Bool := (evalKeys (primOf noMsg) md fuel toks).isSome

/-- SEARCH / UID SEARCH as the code has them, on the selected mailbox's messages (ascending UID order): sequence numbers or
UIDs. SEARCH first walks the program (`validateSearchTokens`) and answers BAD when a key is incomplete; a bare unknown word
is skipped (finding C19-F2). UID SEARCH walks nothing: an incomplete key makes the message not match, unknown words are
skipped (pinned by TestUIDSearch_DefaultBehavior: finding C19-F1). -/
def search (uidMode : Bool) (criteria : Bytes) (box : List Msg) : Answer :=
  let toks := tokens criteria
  let fuel := fuelFor criteria
  if toks.isEmpty then .bad
  else if uidMode then .hits (hitsOf true .uid fuel toks box)
  else if wellFormed .search fuel toks then .hits (hitsOf false .search fuel toks box) else .bad

/-- what the property demands: a program of the search-key language is evaluated, everything else is an error -/
def searchSpec (uidMode : Bool) (criteria : Bytes) (box : List Msg) : Answer :=
  let toks := tokens criteria
  let fuel := fuelFor criteria
  if toks.isEmpty ∨ !wellFormed .spec fuel toks then .bad else .hits (hitsOf uidMode .spec fuel toks box)

end Raven.Search
