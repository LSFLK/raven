import RavenModel.Base.GoStr
/-! `CalculateNewFlags` (message.go and utils/flags.go): the flag string as a token set. The Go code goes through a
map, so results are duplicate-free lists in arbitrary order; everything downstream compares them as sets. -/
namespace Raven.Flags
open Raven Raven.GoStr

def recent : Bytes := b!"\\Recent"
def deleted : Bytes := b!"\\Deleted"
def seen : Bytes := b!"\\Seen"
def junk : Bytes := b!"Junk"
def nonJunk : Bytes := b!"NonJunk"

def dedup : List Bytes → List Bytes
  | [] => []
  | t :: ts => if t ∈ ts then dedup ts else t :: dedup ts

theorem mem_dedup (t : Bytes) (ts : List Bytes) : t ∈ dedup ts ↔ t ∈ ts := by
  fun_induction dedup ts with
  | case1 => rfl
  | case2 a as h ih => rw [ih, List.mem_cons]; exact ⟨.inr, fun h' => h'.elim (· ▸ h) id⟩
  | case3 a as h ih => rw [List.mem_cons, List.mem_cons, ih]

theorem dedup_nodup (ts : List Bytes) : (dedup ts).Nodup := by
  fun_induction dedup ts with
  | case1 => exact List.nodup_nil
  | case2 a as h ih => exact ih
  | case3 a as h ih => exact List.nodup_cons.mpr ⟨fun hm => h ((mem_dedup a as).mp hm), ih⟩

inductive Mode | set | add | del
deriving DecidableEq, Repr

/-- `CalculateNewFlags(currentFlags, newFlags, operation)` on the tokens of the current flag string -/
def newFlags (cur new : List Bytes) : Mode → List Bytes
  | .set => dedup (new.filter (· ≠ recent))
  | .add => dedup (cur ++ new.filter (· ≠ recent))
  | .del => (dedup cur).filter (fun t => !(t ∈ new.filter (· ≠ recent)))

/-- C10.1: STORE is exact set algebra on the named flags (`\Recent` is never client-settable) -/
theorem calc_mem (cur new : List Bytes) (t : Bytes) :
    (t ∈ newFlags cur new .set ↔ t ∈ new ∧ t ≠ recent) ∧
    (t ∈ newFlags cur new .add ↔ t ∈ cur ∨ (t ∈ new ∧ t ≠ recent)) ∧
    (t ∈ newFlags cur new .del ↔ t ∈ cur ∧ ¬ (t ∈ new ∧ t ≠ recent)) := by
  refine ⟨?_, ?_, ?_⟩
  · simp [newFlags, mem_dedup]
  · simp [newFlags, mem_dedup]
  · simp only [newFlags, List.mem_filter, mem_dedup, Bool.not_eq_true', decide_eq_false_iff_not, decide_eq_true_eq, ne_eq]

theorem calc_nodup (cur new : List Bytes) (m : Mode) : (newFlags cur new m).Nodup := by
  cases m
  · exact dedup_nodup _
  · exact dedup_nodup _
  · exact List.Nodup.sublist List.filter_sublist (dedup_nodup _)

/-- mode from the data item after `.SILENT` has been stripped and the text upper-cased -/
def modeOf (item : Bytes) : Option Mode :=
  if item = b!"FLAGS" then some .set else if item = b!"+FLAGS" then some .add
  else if item = b!"-FLAGS" then some .del else none

end Raven.Flags
