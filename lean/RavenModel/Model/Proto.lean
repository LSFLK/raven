import RavenModel.Gen.Facts
/-! The IMAP protocol state machine as far as store access is concerned, assembled from the regenerated tables
(`Gen.commands`: per command every database accessor reachable from its handler with the guards that dominate it;
`Gen.authEvents`: where a session becomes authenticated and whether a TLS check dominates it). -/
namespace Raven.Proto
open Raven Raven.Gen

structure State where
  tls : Bool
  authed : Bool
  selected : Bool
  readOnly : Bool
deriving Repr, DecidableEq

/-- can this accessor call execute in state `s`? Its dominating guards must hold. -/
def Access.enabled (s : State) (a : Access) : Bool :=
  (!a.guards.auth || s.authed) && (!a.guards.sel || s.selected) && (!a.guards.rw || !s.readOnly)

def reach (s : State) (c : Command) : List Access := c.accesses.filter (Access.enabled s)

def isLoginCmd (c : Command) : Bool := !c.uidSub && (c.name = b!"LOGIN" || c.name = b!"AUTHENTICATE")

/-- RFC 3501 selected-state commands -/
def selectedStateNames : List Bytes :=
  [(b!"FETCH"), (b!"SEARCH"), (b!"STORE"), (b!"COPY"), (b!"IDLE"), (b!"CHECK"), (b!"CLOSE"), (b!"EXPUNGE"), (b!"UID"), (b!"UNSELECT")]
def isSelectedStateCmd (c : Command) : Bool := c.uidSub || selectedStateNames.contains c.name

/-! ## facts about the tables — re-checked by the kernel whenever /repo changes -/
/-- every accessor outside LOGIN/AUTHENTICATE is dominated by the authentication guard -/
def AuthGated (c : Command) : Bool := isLoginCmd c || c.accesses.all (fun a => a.guards.auth)
/-- every accessor of a selected-state command (and NOOP's) is dominated by the selection guard -/
def SelGated (c : Command) : Bool := !(isSelectedStateCmd c || c.name = b!"NOOP") || c.accesses.all (fun a => a.guards.sel)
/-- selected-state commands (and NOOP) reach the selected store only (plus the shared blob store) -/
def SelectedStoreOnly (c : Command) : Bool :=
  !(isSelectedStateCmd c || c.name = b!"NOOP") || c.accesses.all (fun a => a.kind = .selected || a.kind = .shared)
/-- no handler opens the store of a user other than the session's -/
def NoForeignStore (c : Command) : Bool := c.accesses.all (fun a => a.kind ≠ .userOther)
def mutatingNames : List Bytes := [(b!"STORE"), (b!"EXPUNGE")]
/-- commands that change the selected mailbox's content are guarded by the read-only flag -/
def ReadOnlyGated (c : Command) : Bool :=
  !(mutatingNames.contains c.name) || c.accesses.all (fun a => a.kind ≠ .selected || a.guards.rw)

/-- every command of the alphabet the model knows -/
def knownNames : List Bytes :=
  [(b!"CAPABILITY"), (b!"LOGIN"), (b!"AUTHENTICATE"), (b!"LIST"), (b!"LSUB"), (b!"CREATE"), (b!"DELETE"), (b!"RENAME"), (b!"SELECT"),
   (b!"EXAMINE"), (b!"FETCH"), (b!"SEARCH"), (b!"STORE"), (b!"COPY"), (b!"STATUS"), (b!"UID"), (b!"IDLE"), (b!"NAMESPACE"),
   (b!"UNSELECT"), (b!"APPEND"), (b!"NOOP"), (b!"CHECK"), (b!"CLOSE"), (b!"EXPUNGE"), (b!"SUBSCRIBE"), (b!"UNSUBSCRIBE"),
   (b!"LOGOUT"), (b!"STARTTLS"), (b!"default")]

theorem reach_nil_of_unauth (s : State) (c : Command) (hs : s.authed = false) (hl : isLoginCmd c = false)
    (hg : AuthGated c = true) : reach s c = [] := by
  simp only [AuthGated, hl, Bool.false_or, List.all_eq_true] at hg
  exact List.filter_eq_nil_iff.mpr fun a ha => by simp [Access.enabled, hg a ha, hs]

theorem reach_nil_of_unselected (s : State) (c : Command) (hs : s.selected = false)
    (hc : (isSelectedStateCmd c || c.name = b!"NOOP") = true) (hg : SelGated c = true) : reach s c = [] := by
  simp only [SelGated, hc, Bool.not_true, Bool.false_or, List.all_eq_true] at hg
  exact List.filter_eq_nil_iff.mpr fun a ha => by simp [Access.enabled, hg a ha, hs]

theorem reach_selected_only (s : State) (c : Command)
    (hc : (isSelectedStateCmd c || c.name = b!"NOOP") = true) (hg : SelectedStoreOnly c = true) :
    ∀ a ∈ reach s c, a.kind = .selected ∨ a.kind = .shared := by
  simp only [SelectedStoreOnly, hc, Bool.not_true, Bool.false_or, List.all_eq_true] at hg
  exact fun a ha => by simpa using hg a (List.mem_filter.mp ha).1

/-- what the environment decides: does the backend accept the credentials, does the mailbox exist -/
structure Input where
  cmd : Command
  backendOK : Bool
  selectOK : Bool
  examine : Bool

/-- the session-state part of one command; a session becomes authenticated only through LOGIN / AUTHENTICATE on a TLS
connection (`Gen.authEvents`: the only assignment is in authenticateUser, each of whose calls is dominated by the TLS check) -/
def next (s : State) (i : Input) : State :=
  if isLoginCmd i.cmd then
    if s.tls && i.backendOK then { s with authed := true } else s
  else if !i.cmd.uidSub && (i.cmd.name = b!"SELECT" || i.cmd.name = b!"EXAMINE") then
    if s.authed then
      (if i.selectOK then { s with selected := true, readOnly := i.cmd.name = b!"EXAMINE" }
       else { s with selected := false, readOnly := false })         -- a failed SELECT leaves no mailbox selected
    else s
  else if !i.cmd.uidSub && (i.cmd.name = b!"CLOSE" || i.cmd.name = b!"UNSELECT") then
    if s.authed && s.selected then { s with selected := false, readOnly := false } else s
  else if !i.cmd.uidSub && i.cmd.name = b!"STARTTLS" then
    if s.tls then s else { tls := true, authed := false, selected := false, readOnly := false }   -- fresh ClientState
  else s

def run (s : State) : List Input → State
  | [] => s
  | i :: is => run (next s i) is

theorem next_unauthed (s : State) (i : Input) (hs : s.authed = false) (h : (s.tls && i.backendOK) = false) :
    (next s i).authed = false := by
  -- with the projection pushed through the conditionals every leaf is the old `authed`, or false
  simp only [next, apply_ite State.authed, hs, h, Bool.false_eq_true, if_false, ite_self]

theorem next_tls_false (s : State) (i : Input) (h : (next s i).tls = false) : s.tls = false := by
  cases ht : s.tls with
  | false => rfl
  | true => simp only [next, apply_ite State.tls, ht, ite_self, if_true] at h; cases h

theorem run_tls_false : ∀ (is : List Input) (s : State), (run s is).tls = false → s.tls = false
  | [], _, h => h
  | i :: is, s, h => next_tls_false s i (run_tls_false is (next s i) h)

end Raven.Proto
