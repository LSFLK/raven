import RavenModel.Model.Wildcard
/-! The table-driven matcher (`doWildcardMatch`, internal/server/utils/pattern.go, since the repair): one row per pattern
character, one cell per suffix of the name. It computes what the backtracking recursion computes, hence the RFC relation, and
its cost is a product. -/
namespace Wild

def hd (l : List Bool) : Bool := l.headD false

/-- one pattern character: from the row for `ps` (indexed by suffixes of `t`) to the row for `c :: ps` -/
def stepRow (c : UInt8) : List UInt8 → List Bool → List Bool
  | [], nx => [if c = star ∨ c = pct then hd nx else false]
  | d :: ts, nx =>
    let rest := stepRow c ts nx.tail
    let here :=
      if c = star then hd nx || hd rest
      else if c = pct then hd nx || (if d = delim then false else hd rest)
      else (if d = c then hd nx.tail else false)
    here :: rest

def baseRow : List UInt8 → List Bool
  | [] => [true]
  | _ :: ts => false :: baseRow ts

def dpRow (p t : List UInt8) : List Bool := p.foldr (fun c row => stepRow c t row) (baseRow t)
def dpMatch (p t : List UInt8) : Bool := hd (dpRow p t)

/-- number of table cells written: the cost model of the fixed matcher -/
def cells (p t : List UInt8) : Nat := (p.length + 1) * (t.length + 1)

/-- row of a matcher over all suffixes -/
def rowOf (k : List UInt8 → Bool) : List UInt8 → List Bool
  | [] => [k []]
  | d :: ts => k (d :: ts) :: rowOf k ts

theorem rowOf_hd (k : List UInt8 → Bool) (t : List UInt8) : hd (rowOf k t) = k t := by
  cases t <;> rfl

theorem baseRow_eq (t : List UInt8) : baseRow t = rowOf (wm []) t := by
  induction t with
  | nil => rfl
  | cons d ts ih => simp [baseRow, rowOf, wm, ih]

theorem stepRow_eq (c : UInt8) (ps t : List UInt8) : stepRow c t (rowOf (wm ps) t) = rowOf (wm (c :: ps)) t := by
  induction t with
  | nil =>
    simp only [stepRow, rowOf, hd, List.headD_cons]
    by_cases hs : c = star
    · simp [hs, wm, starLoop]
    · by_cases hp : c = pct
      · subst hp; simp [wm, pctLoop, show pct ≠ star by decide]
      · simp [hs, hp, wm]
  | cons d ts ih =>
    simp only [stepRow, rowOf, List.tail_cons, ih, rowOf_hd]
    refine congrArg (· :: _) ?_
    by_cases hs : c = star
    · simp [hs, wm, starLoop, hd]
    · by_cases hp : c = pct
      · subst hp; simp [wm, pctLoop, hd, hs]
      · simp [hs, hp, wm]

theorem dpRow_eq (p t : List UInt8) : dpRow p t = rowOf (wm p) t := by
  induction p with
  | nil => exact baseRow_eq t
  | cons c ps ih => exact (congrArg (stepRow c t) ih).trans (stepRow_eq c ps t)

theorem dpMatch_eq_wm (p t : List UInt8) : dpMatch p t = wm p t := by
  rw [dpMatch, dpRow_eq, rowOf_hd]

/-- C18: the table-driven matcher accepts exactly the RFC 3501 relation (what it costs: `cellsWritten_eq`) -/
theorem dpMatch_iff (p t : List UInt8) : dpMatch p t = true ↔ Matches p t := by
  rw [dpMatch_eq_wm, wm_iff]

/-- every row the table-driven matcher writes, newest first (cost model: one cell = one basic step) -/
def dpRows : List UInt8 → List UInt8 → List (List Bool)
  | [], t => [baseRow t]
  | c :: ps, t => let rs := dpRows ps t; stepRow c t (rs.headD []) :: rs

theorem dpRows_head (p t : List UInt8) : (dpRows p t).headD [] = dpRow p t := by
  induction p with
  | nil => rfl
  | cons c ps ih => exact congrArg (stepRow c t) ih

def cellsWritten (p t : List UInt8) : Nat := ((dpRows p t).map List.length).sum

/-! A row has one cell per suffix of the name whatever it is computed from, so the count needs nothing of what the cells hold. -/
theorem baseRow_length (t : List UInt8) : (baseRow t).length = t.length + 1 := by
  induction t with
  | nil => rfl
  | cons d ts ih => simp [baseRow, ih]

theorem stepRow_length (c : UInt8) (t : List UInt8) (nx : List Bool) : (stepRow c t nx).length = t.length + 1 := by
  induction t generalizing nx with
  | nil => rfl
  | cons d ts ih => simp [stepRow, ih]

theorem cellsWritten_eq (p t : List UInt8) : cellsWritten p t = (p.length + 1) * (t.length + 1) := by
  induction p with
  | nil => simp [cellsWritten, dpRows, baseRow_length]
  | cons c ps ih =>
    have : cellsWritten (c :: ps) t = (t.length + 1) + cellsWritten ps t := by
      simp [cellsWritten, dpRows, stepRow_length]
    rw [this, ih, List.length_cons, Nat.succ_mul (ps.length + 1), Nat.add_comm]
end Wild
