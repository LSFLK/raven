import RavenModel.Base.GoStr
/-! Delivery policy (internal/delivery/lmtp/session.go handleRCPT / handleDATA, storage.DeliverMessage,
determineTargetFolder / isSpamByHeaders) and the documented decision table of config/delivery.yaml. -/
namespace Raven.Policy
open Raven Raven.GoStr

structure Cfg where
  allowed : List Bytes        -- allowed_domains (empty = accept all)
  rejectUnknown : Bool        -- reject_unknown_user
  maxRcpt : Nat               -- max_recipients
  maxSize : Nat               -- max_size
  quotaEnabled : Bool
  quotaLimit : Nat
  defaultFolder : Bytes

/-- what the shared database knows -/
structure Dir where
  userIn : Bytes → Bytes → Bool     -- enabled user `local` in `domain`
  disabled : Bytes → Bytes → Bool   -- a disabled user row exists
  isRole : Bytes → Bool             -- enabled role mailbox with this address

/-- `strings.Split(email, "@")` must give exactly two parts (`ExtractLocalPart` / `ExtractDomain`) -/
def splitAddr (a : Bytes) : Option (Bytes × Bytes) :=
  match splitOn 64 a with
  | [l, d] => some (l, d)
  | _ => none

/-- `handleRCPT` after the address has been parsed out of the command -/
def rcptImpl (cfg : Cfg) (dir : Dir) (count : Nat) (addr : Bytes) : Nat :=
  if count ≥ cfg.maxRcpt then 452
  else
    let domOk : Option Nat :=
      if cfg.allowed ≠ [] then
        match splitAddr addr with
        | none => some 550
        | some (_, d) => if cfg.allowed.any (fun a => equalFold d a) then none else some 550
      else none
    match domOk with
    | some c => c
    | none =>
      if cfg.rejectUnknown then
        match splitAddr addr with
        | none => 450                       -- CheckRecipientExists returns an error: "temporary failure"
        | some (l, d) => if dir.isRole addr || dir.userIn l d then 250 else 550
      else 250

def domainAllowed (cfg : Cfg) (addr : Bytes) : Prop :=
  cfg.allowed = [] ∨ ∃ l d, splitAddr addr = some (l, d) ∧ ∃ a ∈ cfg.allowed, equalFold d a = true

def known (dir : Dir) (addr : Bytes) : Prop :=
  ∃ l d, splitAddr addr = some (l, d) ∧ (dir.isRole addr = true ∨ dir.userIn l d = true)

/-- config/delivery.yaml: a recipient is accepted iff the transaction has room for it, its domain is allowed
("empty = accept all") and — with reject_unknown_user — it is in the database -/
def DocAccept (cfg : Cfg) (dir : Dir) (count : Nat) (addr : Bytes) : Prop :=
  count < cfg.maxRcpt ∧ domainAllowed cfg addr ∧ (cfg.rejectUnknown = true → known dir addr)

/-! `rcptImpl` makes two checks on the address, one for each clause of `DocAccept` that speaks of it. -/
/-- the reply that refuses the address for its domain, if any (`domOk` in `rcptImpl`) -/
def domCheck (cfg : Cfg) (addr : Bytes) : Option Nat :=
  if cfg.allowed ≠ [] then
    match splitAddr addr with
    | none => some 550
    | some (_, d) => if cfg.allowed.any (fun a => equalFold d a) then none else some 550
  else none

/-- the reply after `CheckRecipientExists` -/
def lookup (dir : Dir) (addr : Bytes) : Nat :=
  match splitAddr addr with
  | none => 450
  | some (l, d) => if dir.isRole addr || dir.userIn l d then 250 else 550

theorem rcptImpl_eq (cfg : Cfg) (dir : Dir) (count : Nat) (addr : Bytes) :
    rcptImpl cfg dir count addr =
      if count ≥ cfg.maxRcpt then 452
      else match domCheck cfg addr with
        | some c => c
        | none => if cfg.rejectUnknown then lookup dir addr else 250 := rfl

theorem domCheck_some {cfg : Cfg} {addr : Bytes} {c : Nat} : domCheck cfg addr = some c → c = 550 := by
  fun_cases domCheck cfg addr <;> simp [eq_comm]

theorem domCheck_none (cfg : Cfg) (addr : Bytes) : domCheck cfg addr = none ↔ domainAllowed cfg addr := by
  unfold domainAllowed
  fun_cases domCheck cfg addr
  case case1 hne hs =>
    -- domains are restricted and the address has no single `@`: refused, and neither clause holds
    exact iff_of_false nofun fun h => h.elim hne fun ⟨_, _, h, _⟩ => nomatch hs ▸ h
  case case2 hne l d hs hany =>
    -- its domain is on the list: the second clause
    exact iff_of_true rfl (.inr ⟨l, d, hs, List.any_eq_true.mp hany⟩)
  case case3 hne l d hs hany =>
    -- its domain is not on the list: refused
    exact iff_of_false nofun fun h => h.elim hne fun ⟨_, _, h', ha⟩ => by
      cases hs ▸ h'; exact hany (List.any_eq_true.mpr ha)
  case case4 h =>
    -- no list ("empty = accept all"): the first clause
    exact iff_of_true rfl (.inl (Decidable.not_not.mp h))

theorem lookup_ok (dir : Dir) (addr : Bytes) : lookup dir addr = 250 ↔ known dir addr := by
  unfold known
  fun_cases lookup dir addr
  case case1 hs =>
    -- the address cannot be looked up: 450
    exact iff_of_false nofun fun ⟨_, _, h, _⟩ => nomatch hs ▸ h
  case case2 l d hs h =>
    -- a role mailbox or an enabled user
    exact iff_of_true rfl ⟨l, d, hs, by simpa using h⟩
  case case3 l d hs h =>
    -- neither: 550
    exact iff_of_false nofun fun ⟨_, _, h', hk⟩ => by cases hs ▸ h'; exact h (by simpa using hk)

theorem lookup_codes (dir : Dir) (addr : Bytes) : lookup dir addr ∈ [250, 452, 550, 450] := by
  fun_cases lookup dir addr <;> decide

theorem rcpt_accept_iff (cfg : Cfg) (dir : Dir) (count : Nat) (addr : Bytes) :
    rcptImpl cfg dir count addr = 250 ↔ DocAccept cfg dir count addr := by
  rw [rcptImpl_eq, DocAccept, ← domCheck_none, ← lookup_ok]
  split
  · rename_i hc; simp [Nat.not_lt.2 hc]
  · rename_i hc
    have hlt := Nat.lt_of_not_ge hc
    split
    · rename_i c h; simp [h, domCheck_some h]
    · rename_i h; cases hr : cfg.rejectUnknown <;> simp [h, hlt]

/-- a refused recipient is told so with the documented class of reply: 452 when the transaction is full, otherwise a
5xx (or 450 when the address cannot even be looked up) -/
theorem rcpt_refusal_codes (cfg : Cfg) (dir : Dir) (count : Nat) (addr : Bytes) :
    rcptImpl cfg dir count addr ∈ [250, 452, 550, 450] ∧ (count ≥ cfg.maxRcpt → rcptImpl cfg dir count addr = 452) := by
  rw [rcptImpl_eq]
  split
  · exact ⟨by decide, fun _ => rfl⟩
  · rename_i hc
    refine ⟨?_, fun h => absurd h hc⟩
    split
    · rename_i c h
      rw [domCheck_some h]; decide
    · split
      · exact lookup_codes dir addr
      · decide

def lowerTrim (v : Bytes) : Bytes := toLower (trimSpace v)

/-- `isSpamByHeaders` on the first X-Rspamd-Action and the first X-Spam-Status value -/
def isSpam (rspamd : Option Bytes) (spamStatus : Option Bytes) : Bool :=
  (match rspamd with
   | some a => let x := lowerTrim a; x = b!"reject" || x = b!"rewrite subject" || x = b!"add header"
   | none => false) ||
  (match spamStatus with
   | some s => hasPrefix (lowerTrim s) (b!"yes")
   | none => false)

def spamFolder : Bytes := b!"Spam"

/-- `determineTargetFolder` -/
def targetFolder (cfg : Cfg) (rspamd spamStatus : Option Bytes) : Bytes :=
  if isSpam rspamd spamStatus then spamFolder else cfg.defaultFolder

inductive Owner where
  | role (addr : Bytes)
  | user (loc dom : Bytes)
deriving Repr, DecidableEq

/-- `DeliverMessage`: the store of exactly that address — the role mailbox's if the address is one, else the user's
(created on first delivery); `none` = delivery fails (odd syntax, disabled user) -/
def targetOwner (dir : Dir) (addr : Bytes) : Option Owner :=
  match splitAddr addr with
  | none => none
  | some (l, d) => if dir.isRole addr then some (.role addr) else if dir.disabled l d then none else some (.user l d)

/-- `handleRCPT` from the address between the angle brackets: `parseRcptTo` keeps it with its domain in lower case, and
that spelling is what every check and the filing see -/
def rcptWire (cfg : Cfg) (dir : Dir) (count : Nat) (raw : Bytes) : Nat := rcptImpl cfg dir count (lowerDomain raw)
def ownerWire (dir : Dir) (raw : Bytes) : Option Owner := targetOwner dir (lowerDomain raw)

/-- the size limit as enforced (reader + ValidateMessage): strictly more than max_size octets is refused -/
def sizeOk (cfg : Cfg) (size : Nat) : Bool := size ≤ cfg.maxSize

/-- the documented quota rule -/
def QuotaDoc (cfg : Cfg) (usage size : Nat) : Prop := cfg.quotaEnabled = true → usage + size ≤ cfg.quotaLimit
/-- what the code does with the quota (`CheckRecipientQuota`, answered 552 when it fails): the store of exactly that address
is over quota when what it holds plus the message exceeds the limit; role mailboxes have none -/
def quotaImpl (cfg : Cfg) (usage size : Nat) : Bool := !cfg.quotaEnabled || decide (usage + size ≤ cfg.quotaLimit)

end Raven.Policy
