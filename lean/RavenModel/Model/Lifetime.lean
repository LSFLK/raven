/-! The life of a connection as the read loops of the three services have it: in which states a session waits for client
bytes, which read deadline it sets there, and what a failed read — end of stream, or the deadline passing — does. Also the
accept / shutdown bookkeeping of the LMTP and SASL servers. -/
namespace Raven.Lifetime

/-- where a session can be waiting for the client -/
inductive St where
  | imapCmd        -- handleClient: a command line is awaited                 (30 min)
  | imapLiteral    -- APPEND: the announced literal octets are awaited          (5 min)
  | imapAuthWait   -- AUTHENTICATE PLAIN: "+ " sent, the response is awaited    (30 s)
  | imapIdle       -- IDLE: polling for DONE                                    (50 ms polls; logged off after 30 min)
  | lmtpCmd        -- Session.Handle: a command line is awaited                 (configured timeout, default 300 s)
  | lmtpData       -- DATA: message lines are awaited                           (same timeout, per line)
  | saslCmd        -- sasl handleConnection: a request line is awaited          (30 s)
  | closed         -- handler returned, connection closed
deriving DecidableEq, Repr

/-- what ends a wait without client bytes -/
inductive Fail where
  | eof          -- the client closed or reset the connection
  | deadline     -- the read deadline passed
deriving DecidableEq, Repr

/-- the read deadline set before the wait, in milliseconds (inside IDLE: the poll's) -/
def deadlineMs (lmtpTimeoutS : Nat) : St → Option Nat
  | .imapCmd => some (30 * 60 * 1000)
  | .imapLiteral => some (5 * 60 * 1000)
  | .imapAuthWait => some (30 * 1000)
  | .imapIdle => some 50
  | .lmtpCmd => some (lmtpTimeoutS * 1000)
  | .lmtpData => some (lmtpTimeoutS * 1000)
  | .saslCmd => some (30 * 1000)
  | .closed => some 0

/-- what the code does when the read fails. A failed literal or AUTHENTICATE read answers NO and returns to the command loop
(whose own read then fails); a failed DATA read rejects the transaction and returns to the LMTP command loop; inside IDLE a
poll that times out keeps polling, an end of stream ends the session. -/
def fail : St → Fail → St
  | .imapCmd, _ => .closed
  | .imapLiteral, _ => .imapCmd
  | .imapAuthWait, _ => .imapCmd
  | .imapIdle, .eof => .closed
  | .imapIdle, .deadline => .imapIdle
  | .lmtpCmd, _ => .closed
  | .lmtpData, _ => .lmtpCmd
  | .saslCmd, _ => .closed
  | .closed, _ => .closed

/-- `IdleTimeout`: how long a client may stay silent inside IDLE, in milliseconds -/
def idleLimitMs : Nat := 30 * 60 * 1000
/-- one round of the IDLE loop without client bytes: 500 ms sleep, the mailbox poll, a read with a 50 ms deadline -/
def idleRoundMs : Nat := 550

/-- what a silent client's session does at its next wait; the second component counts the milliseconds spent inside IDLE and
`d` is how long one round of the IDLE loop takes. At the head of each round the loop compares the time spent with the limit:
past it the client is told BYE and the connection is closed. Everywhere else the wait ends with its read deadline. -/
def silentStep (d : Nat) : St × Nat → St × Nat
  | (.imapIdle, e) => if e ≥ idleLimitMs then (.closed, e) else (.imapIdle, e + d)
  | (s, e) => (fail s .deadline, e)

def silentRun (d : Nat) : Nat → St × Nat → St × Nat
  | 0, x => x
  | n + 1, x => silentRun d n (silentStep d x)

theorem silentRun_add (d : Nat) : ∀ (a b : Nat) (x : St × Nat), silentRun d (a + b) x = silentRun d b (silentRun d a x)
  | 0, b, x => by rw [Nat.zero_add]; rfl
  | a + 1, b, x => by rw [Nat.succ_add]; exact silentRun_add d a b (silentStep d x)

/-- `e + k * d < idleLimitMs + d`: the last of the `k` rounds begins before the limit -/
theorem idle_rounds (d : Nat) : ∀ (k e : Nat), e + k * d < idleLimitMs + d →
    silentRun d k (.imapIdle, e) = (.imapIdle, e + k * d)
  | 0, e, _ => by rw [Nat.zero_mul]; rfl
  | k + 1, e, h => by
    rw [Nat.succ_mul] at h
    rw [silentRun, silentStep, if_neg (by omega), idle_rounds d k (e + d) (by omega), Nat.succ_mul, Nat.add_comm (k * d),
      Nat.add_assoc]

/-- the wait, in milliseconds, until a silent client's session has ended (`none`: never) -/
def silenceBound (t : Nat) : St → Option Nat
  | .imapIdle => some (idleLimitMs + idleRoundMs)
  | .closed => some 0
  | s =>
    match deadlineMs t s, deadlineMs t (fail s .deadline) with
    | some a, some b => some (a + b)
    | _, _ => none

/-! ## accept loop / shutdown (lmtp.Server and sasl.Server share the shape) -/
structure Srv where
  listening : Bool      -- listeners open
  stopping : Bool       -- shutdown channel closed
  conns : Nat           -- connection goroutines in flight (the wait group minus the acceptors)
  acceptors : Nat       -- accept loops running
deriving DecidableEq, Repr

inductive SEv where
  | dial          -- a client connects
  | connDone      -- a connection goroutine returns
  | shutdown      -- Shutdown() is called
  | acceptorExit  -- an accept loop notices the closed listener and returns
deriving DecidableEq, Repr

/-- `accepted` says whether a dial got a connection goroutine -/
def sstep (s : Srv) : SEv → Srv × Bool
  | .dial => if s.listening then ({ s with conns := s.conns + 1 }, true) else (s, false)
  | .connDone => ({ s with conns := s.conns - 1 }, false)
  | .shutdown => ({ s with listening := false, stopping := true }, false)
  | .acceptorExit => if s.stopping then ({ s with acceptors := s.acceptors - 1 }, false) else (s, false)

def srun : Srv → List SEv → Srv × List Bool
  | s, [] => (s, [])
  | s, e :: es =>
    let (s', a) := sstep s e
    let (s'', as) := srun s' es
    (s'', a :: as)

theorem sstep_stopped (s : Srv) (e : SEv) (hl : s.listening = false) :
    (sstep s e).1.listening = false ∧ (sstep s e).2 = false ∧ (sstep s e).1.conns ≤ s.conns := by
  cases e with
  | acceptorExit => simp only [sstep]; split <;> simp [hl]
  | _ => simp [sstep, hl]

/-- `Start()` returns (`wg.Wait()` falls through) -/
def startReturned (s : Srv) : Bool := s.conns = 0 && s.acceptors = 0

end Raven.Lifetime
