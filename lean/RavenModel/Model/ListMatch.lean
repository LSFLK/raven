import RavenModel.Model.WildcardDP
/-! `utils.MatchWildcard`, `utils.BuildCanonicalPattern`, `utils.FilterMailboxes` (internal/server/utils/pattern.go) -/
namespace Raven.ListMatch
open Raven Wild

/-- "INBOX" -/
def inbox : Bytes := [73, 78, 66, 79, 88]

/-- `if strings.ToUpper(x) == "INBOX" { x = "INBOX" }` -/
def normInbox (x : Bytes) : Bytes := if toUpper x = inbox then inbox else x

/-- `utils.MatchWildcard(text, pattern, "/")` on the table-driven `doWildcardMatch` -/
def matchWildcard (text pattern : Bytes) : Bool := dpMatch (normInbox pattern) (normInbox text)

/-- `utils.BuildCanonicalPattern(reference, pattern, "/")` -/
def canonical (ref pat : Bytes) : Bytes :=
  if pat.head? = some delim then pat
  else if ref = [] then pat
  else if ref.getLast? ≠ some delim then ref ++ delim :: pat
  else ref ++ pat

/-- `utils.FilterMailboxes` -/
def filter (mbs : List Bytes) (ref pat : Bytes) : List Bytes :=
  let c := canonical ref pat
  let ms := mbs.filter (fun m => matchWildcard m c)
  if matchWildcard inbox (toUpper c) && !(ms.any fun m => toUpper m = inbox) then ms ++ [inbox] else ms

/-- the RFC 3501 relation with the INBOX rule -/
def MatchesCI (pattern name : Bytes) : Prop := Matches (normInbox pattern) (normInbox name)

theorem matchWildcard_iff (text pattern : Bytes) : matchWildcard text pattern = true ↔ MatchesCI pattern text := by
  unfold matchWildcard MatchesCI; exact dpMatch_iff _ _

theorem mem_filter (mbs : List Bytes) (ref pat n : Bytes) :
    n ∈ filter mbs ref pat ↔
      (n ∈ mbs ∧ MatchesCI (canonical ref pat) n) ∨
      (n = inbox ∧ MatchesCI (toUpper (canonical ref pat)) inbox ∧
        ∀ m ∈ mbs, MatchesCI (canonical ref pat) m → toUpper m ≠ inbox) := by
  -- the test that adds INBOX, in the terms of the statement
  have hc : (matchWildcard inbox (toUpper (canonical ref pat)) &&
      !((mbs.filter fun m => matchWildcard m (canonical ref pat)).any fun m => toUpper m = inbox)) = true ↔
      MatchesCI (toUpper (canonical ref pat)) inbox ∧ ∀ m ∈ mbs, MatchesCI (canonical ref pat) m → toUpper m ≠ inbox := by
    simp only [Bool.and_eq_true, Bool.not_eq_true', List.any_eq_false, List.mem_filter, decide_eq_true_eq,
      matchWildcard_iff, and_imp]
  unfold filter
  dsimp only   -- the two `let`s of `filter`
  split
  · next h =>
    simp only [List.mem_append, List.mem_filter, matchWildcard_iff, List.mem_singleton]
    exact or_congr_right (iff_self_and.mpr fun _ => hc.mp h)
  · next h =>
    simp only [List.mem_filter, matchWildcard_iff]
    exact (or_iff_left fun h' => h (hc.mpr h'.2)).symm

end Raven.ListMatch
