import RavenModel.Base.GoStr
import RavenModel.Gen.Plan
/-! The *plan* of an operation: its effects in the order the source has them now (`Gen.traces`, regenerated from /repo on
every run by harness/facts/plan.go: SQL statements, transaction brackets, replies, assignments to the session state, with the
repository's own calls inlined).  This file holds the decidable checks over plans and the lemmas that turn a checked plan
into the ordering facts the hand-written machines (`Durable`, `Deliver`, `Proto`, `Auth`) are built on: the machines'
statement order is thereby an obligation over what the code says, not something read off by hand once. -/
namespace Raven.Plan
open Raven

def trace (name : Bytes) : List Bytes :=
  match Gen.traces.find? (fun p => p.1 = name) with
  | some p => p.2
  | none => []

def isSqlWrite (e : Bytes) : Bool :=
  GoStr.hasPrefix e (b!"sql INSERT") || GoStr.hasPrefix e (b!"sql UPDATE") || GoStr.hasPrefix e (b!"sql DELETE") ||
  GoStr.hasPrefix e (b!"sql REPLACE") || e = (b!"sql ?")

/-- a write in a deferred call or in a goroutine happens at a moment the plan does not fix -/
def isDetachedWrite (e : Bytes) : Bool :=
  (GoStr.hasPrefix e (b!"defer ") || GoStr.hasPrefix e (b!"go ")) &&
  (GoStr.containsSub e (b!"sql INSERT") || GoStr.containsSub e (b!"sql UPDATE") || GoStr.containsSub e (b!"sql DELETE") ||
   GoStr.containsSub e (b!"tx commit"))

def isAck (e : Bytes) : Bool := e = (b!"reply OK") || e = (b!"reply 250")

/-- position of the first occurrence -/
def idx (e : Bytes) : List Bytes → Option Nat
  | [] => none
  | x :: xs => if x = e then some 0 else (idx e xs).map (· + 1)

def lastIdxAux (p : Bytes → Bool) : List Bytes → Nat → Option Nat → Option Nat
  | [], _, acc => acc
  | x :: xs, i, acc => lastIdxAux p xs (i + 1) (if p x then some i else acc)
/-- position of the last event satisfying `p` -/
def lastIdx (p : Bytes → Bool) (t : List Bytes) : Option Nat := lastIdxAux p t 0 none

def before (a b : Option Nat) : Bool :=
  match a, b with
  | some i, some j => i < j
  | _, _ => false

def nondecreasing : List Nat → Bool
  | a :: b :: r => a ≤ b && nondecreasing (b :: r)
  | _ => true

theorem nondecreasing_pairwise : ∀ l : List Nat, nondecreasing l = true → l.Pairwise (· ≤ ·)
  | [], _ => List.Pairwise.nil
  | [a], _ => List.pairwise_singleton _ a
  | a :: b :: r, h => by
    simp only [nondecreasing, Bool.and_eq_true, decide_eq_true_eq] at h
    have ih := nondecreasing_pairwise (b :: r) h.2
    refine List.Pairwise.cons ?_ ih
    intro x hx
    rcases List.mem_cons.mp hx with rfl | hx
    · exact h.1
    · exact Nat.le_trans h.1 (List.rel_of_pairwise_cons ih hx)

/-- the transaction bracket: walking the plan, is a transaction open at the end? (a deferred rollback is no event) -/
def openTxAtEnd : List Bytes → Bool → Bool
  | [], open' => open'
  | e :: r, open' =>
    if e = (b!"tx begin") then openTxAtEnd r true
    else if e = (b!"tx commit") then openTxAtEnd r false
    else openTxAtEnd r open'

/-- **acknowledged ⇒ committed** as a check over a plan: the last write is followed by an acknowledgement, every
transaction that was begun is committed in line (not in a deferred call) before the plan ends, and no write is detached. -/
def ackAfterCommit (t : List Bytes) : Bool :=
  before (lastIdx isSqlWrite t) (lastIdx isAck t) &&
  !openTxAtEnd t false &&
  !t.any isDetachedWrite &&
  (match lastIdx (· = (b!"tx commit")) t with
   | some c => before (some c) (lastIdx isAck t)
   | none => true)

/-- no event of the plan mentions the marker (e.g. `LIKE(`, `DISTINCT`, `MAX(uid)`) -/
def free (marker : Bytes) (t : List Bytes) : Bool := !t.any (fun e => GoStr.containsSub e marker)

def count (p : Bytes → Bool) (t : List Bytes) : Nat := (t.filter p).length

/-- the steps of the delivery machine `Durable` (message row; header, address, blob and part rows; UID allocation; link row;
acknowledgement) as the statements of the code -/
def deliveryPhase (e : Bytes) : Option Nat :=
  if e = (b!"sql INSERT messages") then some 0
  else if e = (b!"sql INSERT message_headers") || e = (b!"sql INSERT addresses") || e = (b!"sql INSERT message_parts") ||
          e = (b!"sql INSERT blobs") || e = (b!"sql UPDATE blobs") then some 1
  else if e = (b!"sql UPDATE mailboxes RETURNING") then some 2
  else if e = (b!"sql INSERT message_mailbox") then some 3
  else if isAck e then some 4
  else none

/-- all five steps occur, in the machine's order -/
def deliveryOrder (t : List Bytes) : Bool :=
  let ph := t.filterMap deliveryPhase
  nondecreasing ph && ph.contains 0 && ph.contains 1 && ph.contains 2 && ph.contains 3 && ph.contains 4 &&
  (ph.filter (· = 3)).length = 1 && (ph.filter (· = 2)).length = 1

theorem deliveryOrder_sorted {t : List Bytes} (h : deliveryOrder t = true) :
    (t.filterMap deliveryPhase).Pairwise (· ≤ ·) := by
  -- `nondecreasing` is the first factor of the conjunction that `deliveryOrder` is
  cases hn : nondecreasing (t.filterMap deliveryPhase) with
  | true => exact nondecreasing_pairwise _ hn
  | false => simp only [deliveryOrder, hn, Bool.false_and, Bool.false_eq_true] at h

def sqlOnly (t : List Bytes) : List Bytes := t.filter (fun e => GoStr.hasPrefix e (b!"sql "))

/-- the events between the first `tx begin` and the following `tx commit` -/
def inTx (t : List Bytes) : List Bytes :=
  ((t.dropWhile (· ≠ (b!"tx begin"))).drop 1).takeWhile (· ≠ (b!"tx commit"))

/-- the read deadlines (ms) armed in a function, in the order of `Gen.deadlines` (harness/facts/plan.go sorts them by function,
then ascending) -/
def deadlinesAt (f : Bytes) : List Int := (Gen.deadlines.filter (fun d => d.at' = f)).map (·.ms)

theorem free_spec (m : Bytes) (t : List Bytes) (h : free m t = true) : ∀ e ∈ t, GoStr.containsSub e m = false := by
  intro e he
  simp only [free, Bool.not_eq_true', List.any_eq_false] at h
  simpa using h e he

end Raven.Plan
