import RavenModel.Base.Bytes
import RavenModel.Base.GoStrSub
import RavenModel.Base.Dec
/-! Multipart bodies **at the octet level**: what `ReconstructMessage… / reconstructPartDFS` writes (delimiter lines made
from a generated boundary around the parts, a closing delimiter) and what a reader of that text — `mime/multipart.Reader`
as used by `parser.parseMultipart` and by `response.BuildBodyStructure`, or any client — finds when it takes it apart again:
it scans for `CRLF "--" boundary` followed by `--` (closing) or a line end (next part); an occurrence followed by anything
else (a longer boundary of a nested container, say) is text.

`parse` inverts the writer (`core` for an entity inside a container, `message` for a whole message) on every tree whose
parts are *clean* for the boundaries around them and whose header blocks are read as written (`fresh`, a decidable
predicate): any depth, any number of parts, any octets. Only this direction is proved; whether a given text is in the image
of the writer is computed, not proved (`observe`). Where a part is not clean — its text contains a line that looks like a
delimiter of an enclosing container — the reader sees other parts than were written: that is the excluded point, probed on
the real code by the C02 harness. -/
namespace Raven.Mime
open Raven Raven.GoStr

def CRLF : Bytes := [13, 10]
def DD : Bytes := [45, 45]

/-- what follows an occurrence of the delimiter: `--` closes the container, a line end starts the next part, anything else
means the occurrence is not a delimiter -/
def classify : Bytes → Option Bool
  | 45 :: 45 :: _ => some true
  | 13 :: 10 :: _ => some false
  | _ => none

/-- scan for the next delimiter `d` (= CRLF "--" boundary): the octets before it, whether it closes, what follows its line -/
def scan (d : Bytes) : Bytes → Option (Bytes × Bool × Bytes)
  | [] => none
  | c :: s =>
    if hasPrefix (c :: s) d then
      match classify ((c :: s).drop d.length) with
      | some cl => some ([], cl, (c :: s).drop (d.length + 2))
      | none => (scan d s).map (fun x => (c :: x.1, x.2.1, x.2.2))
    else (scan d s).map (fun x => (c :: x.1, x.2.1, x.2.2))

/-- the parts of a container body that starts right after a delimiter line -/
def parts (d : Bytes) : Nat → Bytes → Option (List Bytes)
  | 0, _ => none
  | f + 1, s =>
    match scan d s with
    | none => none
    | some (p, true, _) => some [p]
    | some (p, false, r) => (parts d f r).map (p :: ·)

def delim (b : Bytes) : Bytes := CRLF ++ DD ++ b

/-- a container body as the reader takes it apart: the preamble (everything before the first delimiter line; the body's first
line may itself be that line) is dropped; a closing delimiter right away means no parts -/
def splitBody (b : Bytes) (body : Bytes) : Option (List Bytes) :=
  match scan (delim b) (CRLF ++ body) with
  | some (_, false, r) => parts (delim b) (r.length + 1) r
  | some (_, true, _) => some []
  | none => none

/-- what the writer produces for the parts `ps` under boundary `b`: `--b CRLF part CRLF` for each, then `--b--` and what
follows (`CRLF` at the end of a message; inside an enclosing container that line end belongs to the next delimiter) -/
def joinBody (b : Bytes) (ps : List Bytes) (e : Bytes) : Bytes :=
  (ps.flatMap fun p => DD ++ b ++ CRLF ++ p ++ CRLF) ++ DD ++ b ++ DD ++ e

/-- `s` begins with a delimiter: `d` followed by `--` or a line end -/
def hitHere (d s : Bytes) : Bool := hasPrefix s d && (classify (s.drop d.length)).isSome

/-- none of the first `k` positions of `s` begins a delimiter (one pass over the text) -/
def cleanGo (d : Bytes) : Bytes → Nat → Bool
  | _, 0 => true
  | [], _ + 1 => true
  | c :: s, k + 1 => !hitHere d (c :: s) && cleanGo d s k

/-- `p` followed by `d ++ t` holds no delimiter that starts inside `p` -/
def clean (d p t : Bytes) : Bool := cleanGo d (p ++ d ++ t) p.length

theorem clean_cons {d : Bytes} {c : UInt8} {p t : Bytes} :
    clean d (c :: p) t = true ↔ hitHere d (c :: (p ++ (d ++ t))) = false ∧ clean d p t = true := by
  simp [clean, cleanGo]

theorem scan_skip {d : Bytes} {c : UInt8} {s : Bytes} (h : hitHere d (c :: s) = false) :
    scan d (c :: s) = (scan d s).map fun x => (c :: x.1, x.2.1, x.2.2) := by
  rw [scan]
  split
  next hp =>
    split
    next cl hc =>
      -- a prefix match that classifies is a hit
      rw [hitHere, hp, hc] at h
      cases h
    · rfl
  · rfl

theorem scan_here (d : Bytes) (hd : d ≠ []) (t : Bytes) (cl : Bool) (hc : classify t = some cl) :
    scan d (d ++ t) = some ([], cl, t.drop 2) := by
  obtain ⟨c, cs, rfl⟩ := List.exists_cons_of_ne_nil hd
  have hp := hasPrefix_append (c :: cs) t
  simp only [List.cons_append] at hp
  simp [scan, hp, hc, ← List.drop_drop]

theorem scan_clean (d : Bytes) (hd : d ≠ []) : ∀ (p t : Bytes) (cl : Bool), clean d p t = true → classify t = some cl →
    scan d (p ++ d ++ t) = some (p, cl, t.drop 2)
  | [], t, cl, _, hc => scan_here d hd t cl hc
  | c :: p, t, cl, hcl, hc => by
    obtain ⟨h0, hrest⟩ := clean_cons.1 hcl
    have ih := scan_clean d hd p t cl hrest hc
    rw [List.append_assoc] at ih ⊢
    rw [List.cons_append, scan_skip h0, ih]; rfl

/-- the octets after the first delimiter line: each part followed by the delimiter, `CRLF` between parts, `--` after the last -/
def stream (d : Bytes) : List Bytes → Bytes → Bytes
  | [], e => e
  | [p], e => p ++ d ++ (DD ++ e)
  | p :: q :: ps, e => p ++ d ++ (CRLF ++ stream d (q :: ps) e)

/-- every part is clean in front of what follows it -/
def cleanAll (d : Bytes) : List Bytes → Bytes → Bool
  | [], _ => true
  | [p], e => clean d p (DD ++ e)
  | p :: q :: ps, e => clean d p (CRLF ++ stream d (q :: ps) e) && cleanAll d (q :: ps) e

theorem delim_ne_nil (b : Bytes) : delim b ≠ [] := by simp [delim, CRLF]

theorem parts_stream (d : Bytes) (hd : d ≠ []) : ∀ (p : Bytes) (ps : List Bytes) (e : Bytes) (f : Nat),
    (stream d (p :: ps) e).length < f → cleanAll d (p :: ps) e = true → parts d f (stream d (p :: ps) e) = some (p :: ps)
  | _, _, _, 0, hf, _ => absurd hf (Nat.not_lt_zero _)
  | p, [], e, f + 1, _, hc => by
    simp only [stream, parts, scan_clean d hd p (DD ++ e) true hc rfl]
  | p, q :: ps, e, f + 1, hf, hc => by
    simp only [cleanAll, Bool.and_eq_true] at hc
    have ih := parts_stream d hd q ps e f (by simp [stream, CRLF] at hf; omega) hc.2
    have hs := scan_clean d hd p (CRLF ++ stream d (q :: ps) e) false hc.1 rfl
    simp only [stream, parts, hs, show (CRLF ++ stream d (q :: ps) e).drop 2 = stream d (q :: ps) e from rfl, ih, Option.map_some]

theorem joinBody_eq_stream (b e : Bytes) : ∀ (p : Bytes) (ps : List Bytes),
    p ++ CRLF ++ joinBody b ps e = stream (delim b) (p :: ps) e
  | p, [] => by simp [joinBody, stream, delim]
  | p, q :: ps => by
    have ih := joinBody_eq_stream b e q ps
    simp only [joinBody, List.flatMap_cons, List.append_assoc, stream, delim] at ih ⊢
    rw [ih]

/-- **split ∘ join**: a reader of the written container body finds exactly the parts that were written — whatever their number
and their octets — provided each part is clean in front of what follows it -/
theorem splitBody_written (b : Bytes) : ∀ (ps : List Bytes) (e : Bytes), cleanAll (delim b) ps e = true →
    splitBody b (joinBody b ps e) = some ps
  | [], e, _ => by
    have h : CRLF ++ joinBody b [] e = delim b ++ (DD ++ e) := by simp [joinBody, delim]
    rw [splitBody, h, scan_here _ (delim_ne_nil b) _ true rfl]
  | p :: ps, e, hc => by
    have h : CRLF ++ joinBody b (p :: ps) e = delim b ++ (CRLF ++ stream (delim b) (p :: ps) e) := by
      rw [← joinBody_eq_stream]; simp [joinBody, delim]
    rw [splitBody, h, scan_here _ (delim_ne_nil b) _ false rfl]
    exact parts_stream (delim b) (delim_ne_nil b) p ps e _ (Nat.lt_succ_self _) hc

theorem splitBody_joinBody (b : Bytes) (ps : List Bytes) (e : Bytes) (hne : ps ≠ [])
    (hc : cleanAll (delim b) ps e = true) : splitBody b (joinBody b ps e) = some ps :=
  splitBody_written b ps e hc

/-- an entity: a leaf is its text (header block, blank line, content) without the final line end; a container has its header
block (including the blank line), its boundary and its parts -/
inductive Tree where
  | leaf (text : Bytes) : Tree
  | multi (hdr : Bytes) (b : Bytes) (cs : List Tree) : Tree
deriving Repr

mutual
/-- the entity as written inside a container (`reconstructPartDFS`), up to the line end that precedes the next delimiter -/
def core : Tree → Bytes
  | .leaf t => t
  | .multi h b cs => h ++ joinBody b (coreList cs) []
def coreList : List Tree → List Bytes
  | [] => []
  | t :: ts => core t :: coreList ts
end

/-- a whole multipart message: the closing delimiter is followed by a line end -/
def message : Tree → Bytes
  | .leaf t => t ++ CRLF
  | .multi h b cs => h ++ joinBody b (coreList cs) CRLF

mutual
def depth : Tree → Nat
  | .leaf _ => 1
  | .multi _ _ cs => depthList cs + 1
def depthList : List Tree → Nat
  | [] => 0
  | t :: ts => max (depth t) (depthList ts)
end

/-- the reader of an entity's header block is a parameter (`mime.ParseMediaType` on the Content-Type field, library code):
for a container it yields the header block, the boundary and the body; for anything else nothing -/
abbrev HeaderReader := Bytes → Option (Bytes × Bytes × Bytes)

/-- take an entity apart, as deep as it goes -/
def parse (K : HeaderReader) : Nat → Bytes → Option Tree
  | 0, _ => none
  | f + 1, text =>
    match K text with
    | none => some (.leaf text)
    | some (h, b, body) =>
      match splitBody b body with
      | none => none
      | some ps => (ps.mapM (parse K f)).map (Tree.multi h b)

mutual
/-- the decidable side condition: every header block is read as what it was written from, and every part is clean for the
delimiter of the container it sits in (its own text and that of everything nested in it included) -/
def fresh (K : HeaderReader) : Tree → Bool
  | .leaf t => (K t).isNone
  | .multi h b cs =>
    (K (h ++ joinBody b (coreList cs) []) == some (h, b, joinBody b (coreList cs) [])) &&
    cleanAll (delim b) (coreList cs) [] && freshList K cs
def freshList (K : HeaderReader) : List Tree → Bool
  | [] => true
  | t :: ts => fresh K t && freshList K ts
end

/-- one container, whatever follows its closing delimiter: `core` has nothing there, `message` a line end -/
theorem parse_joinBody (K : HeaderReader) (h b : Bytes) (cs : List Tree) (e : Bytes) (f : Nat)
    (hK : K (h ++ joinBody b (coreList cs) e) = some (h, b, joinBody b (coreList cs) e))
    (hcl : cleanAll (delim b) (coreList cs) e = true) (hkids : (coreList cs).mapM (parse K f) = some cs) :
    parse K (f + 1) (h ++ joinBody b (coreList cs) e) = some (.multi h b cs) := by
  simp only [parse, hK, splitBody_written b _ e hcl, hkids, Option.map_some]

/-- the side conditions on an entity followed by `e`: `fresh` is the case `e = []` (an entity inside a container),
`freshMessage` the case of a whole message, `e = CRLF` -/
def freshAt (K : HeaderReader) (e : Bytes) : Tree → Prop
  | .leaf t => K (t ++ e) = none
  | .multi h b cs => K (h ++ joinBody b (coreList cs) e) = some (h, b, joinBody b (coreList cs) e) ∧
      cleanAll (delim b) (coreList cs) e = true ∧ freshList K cs = true

theorem fresh_iff {K : HeaderReader} {t : Tree} : fresh K t = true ↔ freshAt K [] t := by
  cases t <;> simp [fresh, freshAt, and_assoc]

mutual
/-- **parse ∘ core** on trees of any depth and width -/
theorem parse_core (K : HeaderReader) : ∀ (t : Tree) (f : Nat), depth t ≤ f → fresh K t = true → parse K f (core t) = some t
  | _, 0, hf, _ => by cases ‹Tree› <;> simp [depth] at hf
  | .leaf t, f + 1, _, hfr => by
    simp only [fresh, Option.isNone_iff_eq_none] at hfr
    simp [parse, core, hfr]
  | .multi h b cs, f + 1, hf, hfr => by
    obtain ⟨hK, hcl, hfl⟩ := fresh_iff.1 hfr
    exact parse_joinBody K h b cs [] f hK hcl (parseList_core K cs f (Nat.le_of_succ_le_succ hf) hfl)
theorem parseList_core (K : HeaderReader) : ∀ (cs : List Tree) (f : Nat), depthList cs ≤ f → freshList K cs = true →
    (coreList cs).mapM (parse K f) = some cs
  | [], _, _, _ => by simp [coreList]
  | t :: ts, f, hf, hfr => by
    simp only [freshList, Bool.and_eq_true] at hfr
    have hf := Nat.max_le.mp (show max (depth t) (depthList ts) ≤ f from hf)
    have h1 := parse_core K t f hf.1 hfr.1
    have h2 := parseList_core K ts f hf.2 hfr.2
    simp [coreList, List.mapM_cons, h1, h2]
end

/-- the same for a whole message (closing delimiter followed by its line end) -/
theorem parse_message (K : HeaderReader) (h b : Bytes) (cs : List Tree) (f : Nat) (hf : depthList cs ≤ f)
    (hK : K (h ++ joinBody b (coreList cs) CRLF) = some (h, b, joinBody b (coreList cs) CRLF))
    (hcl : cleanAll (delim b) (coreList cs) CRLF = true) (hfl : freshList K cs = true) :
    parse K (f + 1) (message (.multi h b cs)) = some (.multi h b cs) :=
  parse_joinBody K h b cs CRLF f hK hcl (parseList_core K cs f hf hfl)

/-- first occurrence of a pattern: what precedes it and what follows it -/
def findSub (pat : Bytes) : Bytes → Option (Bytes × Bytes)
  | [] => if pat.isEmpty then some ([], []) else none
  | c :: s =>
    if hasPrefix (c :: s) pat then some ([], (c :: s).drop pat.length)
    else (findSub pat s).map (fun x => (c :: x.1, x.2))

def lit_ctMulti : Bytes := b!"content-type: multipart/"
def lit_boundary : Bytes := b!"; boundary=\""

/-- header block = everything up to and including the first empty line; an entity is a container when its header block has
a `Content-Type: multipart/…` field with a quoted `boundary` parameter (the form the writer produces) -/
def readHeader : HeaderReader := fun text =>
  match findSub (CRLF ++ CRLF) text with
  | none => none
  | some (h, body) =>
    if containsSub (toLower h) lit_ctMulti then
      match findSub lit_boundary h with
      | none => none
      | some (_, r) =>
        match findSub [34] r with
        | some (b, _) => some (h ++ CRLF ++ CRLF, b, body)
        | none => none
    else none

/-- `fmt.Sprintf("----=_Part_%s_%d", Subtype, id)`: the writer's boundary for the container stored as part row `id` -/
def boundaryFor (subtype : Bytes) (id : Nat) : Bytes :=
  let cap := match subtype with
    | [] => []
    | c :: cs => toUpperB c :: cs
  (b!"----=_Part_") ++ cap ++ [95] ++ Dec.print id

/-- the writer's header block of a container (`MIME-Version` only at the top) -/
def containerHeader (top : Bool) (ctype b : Bytes) : Bytes :=
  (if top then (b!"MIME-Version: 1.0\r\n") else []) ++ (b!"Content-Type: ") ++ ctype ++ (b!"; boundary=\"") ++ b ++ (b!"\"\r\n\r\n")

/-- a leaf's content as the writer emits it: a line end is appended unless there is one; as a part, the entity therefore
ends where that line end begins -/
def strip1 (c : Bytes) : Bytes := if hasSuffix c CRLF then c.take (c.length - 2) else c

mutual
/-- shape of a tree with the length of each leaf's body (the octets after the leaf's first empty line) -/
def digest : Tree → String
  | .leaf t =>
    match findSub (CRLF ++ CRLF) t with
    | some (_, body) => s!"L{body.length}"
    | none => "L-"
  | .multi _ b cs => "(" ++ digestList cs ++ ")" ++ s!"B{b.length}"
def digestList : List Tree → String
  | [] => ""
  | t :: ts => digest t ++ (if ts.isEmpty then "" else " ") ++ digestList ts
end

mutual
/-- the bodies of the leaves in document order, each with its IMAP section path -/
def leaves (pre : List Nat) : Tree → List (List Nat × Bytes)
  | .leaf t =>
    match findSub (CRLF ++ CRLF) t with
    | some (_, body) => [(pre, body)]
    | none => [(pre, [])]
  | .multi _ _ cs => leavesList pre 1 cs
def leavesList (pre : List Nat) (n : Nat) : List Tree → List (List Nat × Bytes)
  | [] => []
  | t :: ts => leaves (pre ++ [n]) t ++ leavesList pre (n + 1) ts
end

/-- number of parts of a container (0 for a leaf) -/
def width : Tree → Nat
  | .leaf _ => 0
  | .multi _ _ cs => cs.length

/-- a whole message as a reader takes it apart (the final line end of the text is the writer's). The fuel for the parts: a
tree is at most one deeper than its text is long (`depth_le_length`), and every part is shorter than the text -/
def parseMessage (text : Bytes) : Option Tree :=
  match readHeader text with
  | none => some (.leaf (if hasSuffix text CRLF then text.take (text.length - 2) else text))
  | some (h, b, body) =>
    match splitBody b body with
    | none => none
    | some ps => (ps.mapM (parse readHeader (text.length + 1))).map (Tree.multi h b)

/-- the side conditions of `parse_message` for a whole message -/
def freshMessage : Tree → Bool
  | .leaf t => (readHeader (t ++ CRLF)).isNone
  | .multi h b cs =>
    (readHeader (h ++ joinBody b (coreList cs) CRLF) == some (h, b, joinBody b (coreList cs) CRLF)) &&
    cleanAll (delim b) (coreList cs) CRLF && freshList readHeader cs

def pathS (p : List Nat) : String := if p.isEmpty then "-" else ".".intercalate (p.map toString)

/-- what the correspondence asks about a fetched message text: is it in the image of the writer (`message (parse text) =
text`), do the side conditions of the theorem hold for it, its shape, and the body of every leaf with its section path -/
def observe (text : Bytes) : String :=
  match parseMessage text with
  | none => "unreadable"
  | some t =>
    let rt := message t == text
    s!"ok fresh={freshMessage t} image={rt} shape={(digest t).replace " " ","} " ++
      " ".intercalate ((leaves [] t).map (fun (p, b) => pathS p ++ ":" ++ hexOut b))

end Raven.Mime
