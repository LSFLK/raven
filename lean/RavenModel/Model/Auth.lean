import RavenModel.Base.GoStr
/-! Identity handling of the IMAP login path and the SASL service (auth.authenticateUser, IMAPServer.ExtractUsername /
GetUserDomain, HandleAuthenticate's PLAIN decoding, sasl.handlePlain / authenticate). -/
namespace Raven.Auth
open Raven Raven.GoStr

def at' : UInt8 := 64

def countAt (u : Bytes) : Nat := (u.filter (· = at')).length
def hasAt (u : Bytes) : Bool := u.contains at'

/-- the address sent to the backend: the typed name, or name@default-domain -/
def emailFor (user dom : Bytes) : Bytes := if hasAt user then user else user ++ at' :: dom

/-- `ExtractUsername`: everything before the first `@` -/
def localOf (user : Bytes) : Bytes := match splitOn at' user with | l :: _ => l | [] => user
/-- `GetUserDomain`: the part after `@` when there is exactly one, else the configured domain -/
def domainOf (user dom : Bytes) : Bytes :=
  if hasAt user then (match splitOn at' user with | [_, d] => d | _ => dom) else dom

/-- the store a successful login is bound to -/
def bind (user dom : Bytes) : Bytes × Bytes := (localOf user, domainOf user dom)

/-- admitted to the backend at all: at most one `@` (valid UTF-8 is checked on the Go side) -/
def admissible (user : Bytes) : Bool := countAt user ≤ 1

theorem hasAt_iff (u : Bytes) : hasAt u = true ↔ 0 < countAt u := by
  simp [hasAt, countAt, List.length_pos_iff_exists_mem]

theorem splitOn_noAt (u : Bytes) (h : hasAt u = false) : splitOn at' u = [u] :=
  splitOn_nosep _ _ fun c hc e => by
    rw [hasAt, List.contains_iff_mem.mpr (e ▸ hc)] at h; cases h

theorem splitOn_oneAt : ∀ (u : Bytes), countAt u = 1 → ∃ l d, splitOn at' u = [l, d] ∧ u = l ++ at' :: d
  | [], h => by simp [countAt] at h
  | c :: cs, h => by
    by_cases hc : c = at'
    · have hno : hasAt cs = false := by
        have h0 : countAt cs = 0 := by simpa [countAt, hc] using h
        rw [Bool.eq_false_iff, Ne, hasAt_iff]; omega
      exact ⟨[], cs, by simp [splitOn, hc, splitOn_noAt cs hno], by rw [hc]; rfl⟩
    · obtain ⟨l, d, hs, hu⟩ := splitOn_oneAt cs (by simpa [countAt, hc] using h)
      exact ⟨c :: l, d, by simp [splitOn, hc, hs], by simp [hu]⟩

/-- **C04.2** for an admissible name the session is bound to exactly the address the backend verified -/
theorem bind_is_email (user dom : Bytes) (h : admissible user = true) :
    emailFor user dom = (bind user dom).1 ++ at' :: (bind user dom).2 := by
  have hle : countAt user ≤ 1 := by simpa [admissible] using h
  cases hh : hasAt user with
  | false => simp [emailFor, bind, localOf, domainOf, hh, splitOn_noAt user hh]
  | true =>
    obtain ⟨l, d, hs, hu⟩ := splitOn_oneAt user (by have := (hasAt_iff user).mp hh; omega)
    simp only [emailFor, bind, localOf, domainOf, hh, hs, if_true]
    exact hu

/-- two `@`: the backend would verify one address and the session be bound to another (the pinned tree did that) -/
theorem two_at_mismatch :
    emailFor (b!"a@b@c") (b!"example.com") ≠ (bind (b!"a@b@c") (b!"example.com")).1 ++ at' :: (bind (b!"a@b@c") (b!"example.com")).2 := by
  decide +kernel

/-- `strings.Split(decoded, "\x00")`: ≥3 fields → [1],[2]; 2 fields → [0],[1] -/
def plainSplit (decoded : Bytes) : Option (Bytes × Bytes) :=
  match splitOn 0 decoded with
  | [u, p] => some (u, p)
  | _ :: u :: p :: _ => some (u, p)
  | _ => none

/-- RFC 4616 message `authzid NUL authcid NUL passwd` without further NULs: exactly authcid and passwd are used -/
theorem plain_fields_exact (z u p : Bytes) (hz : ∀ c ∈ z, c ≠ 0) (hu : ∀ c ∈ u, c ≠ 0) (hp : ∀ c ∈ p, c ≠ 0) :
    plainSplit (z ++ 0 :: (u ++ 0 :: p)) = some (u, p) := by
  unfold plainSplit
  rw [splitOn_nosep_sep 0 z _ hz, splitOn_nosep_sep 0 u _ hu, splitOn_nosep 0 p hp]

def isCtl (c : UInt8) : Bool := c < 32 || c = 127

/-- the one-line answers of the SASL service -/
def okLine (id user : Bytes) : Bytes := b!"OK\t" ++ id ++ b!"\tuser=" ++ user ++ [b_lf]
def failLine (id : Bytes) : Bytes := b!"FAIL\t" ++ id ++ b!"\treason=x" ++ [b_lf]

theorem okLine_eq (id user : Bytes) :
    okLine id user = (b!"OK") ++ b_tab :: (id ++ b_tab :: ((b!"user=") ++ user ++ [b_lf])) := by
  simp [okLine]

/-- **C04.4** an OK answer is a single line whose second field is the request id, provided the user name carries no
control character (such names are refused before the backend is asked) -/
theorem ok_is_one_line (id user : Bytes) (hid : ∀ c ∈ id, c ≠ b_lf ∧ c ≠ b_tab) (hu : ∀ c ∈ user, isCtl c = false) :
    ((okLine id user).filter (· = b_lf)).length = 1 ∧
    (splitOn b_tab (okLine id user)).take 2 = [b!"OK", id] := by
  rw [okLine_eq]
  constructor
  · have e1 : id.filter (· = b_lf) = [] := List.filter_eq_nil_iff.mpr (fun c hc => by simpa using (hid c hc).1)
    -- a line feed is a control character, so the name has none
    have e2 : user.filter (· = b_lf) = [] := List.filter_eq_nil_iff.mpr (fun c hc => by
      have := hu c hc; simp only [decide_eq_true_eq]; rintro rfl; cases this)
    simp [List.filter_append, e1, e2]
  · rw [splitOn_nosep_sep b_tab (b!"OK") _ (by decide), splitOn_nosep_sep b_tab id _ (fun c hc => (hid c hc).2)]
    rfl

end Raven.Auth
