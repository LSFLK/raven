import RavenModel.Model.Mail
/-! EXPUNGE notices vs a client's view; ranks by OFFSET, by COUNT(uid ≤ ·) (C09). -/
namespace Raven.Mail
open Raven

/-- client side: remove the n-th (1-based) element of the view -/
def removeNth {β} : Nat → List β → List β
  | _, [] => []
  | 0, xs => xs            -- `* 0 EXPUNGE` is not a valid notice: ignored
  | 1, _ :: xs => xs
  | n+2, x :: xs => x :: removeNth (n+1) xs

/-- a client applying the untagged EXPUNGE responses in order -/
def replay {β} (view : List β) (ns : List Nat) : List β := ns.foldl (fun v n => removeNth n v) view

theorem removeNth_append {β} (pre : List β) (x : β) (post : List β) :
    removeNth (pre.length + 1) (pre ++ x :: post) = pre ++ post := by
  induction pre with
  | nil => simp [removeNth]
  | cons a as ih =>
    simp only [List.length_cons, List.cons_append]
    show removeNth (as.length + 2) (a :: (as ++ x :: post)) = _
    simp [removeNth, ih]

/-- the notice for a doomed message: with `n` survivors and `k` doomed ones before it its rank is `n + k + 1`, and `k` have
been announced -/
theorem notice_eq (n k : Nat) : n + k + 1 - k = n + 1 := by
  rw [Nat.add_right_comm, Nat.add_sub_cancel]

/-- generalised: `kept` are the survivors already passed (the client's view prefix), `k` the doomed ones -/
theorem replay_notices (doomed : Link → Bool) (kept : List Link) (xs : List Link) (k : Nat) :
    replay (kept ++ xs) (notices doomed (kept.length + k + 1) k xs) = kept ++ xs.filter (fun l => !doomed l) := by
  induction xs generalizing kept k with
  | nil => simp [notices, replay]
  | cons x xs ih =>
    by_cases hd : doomed x = true
    · simp only [notices, hd, if_true, replay, List.foldl_cons]
      rw [notice_eq, removeNth_append]
      simpa [replay, hd, Nat.add_assoc] using ih kept (k + 1)
    · simp only [notices, hd, if_false, Bool.false_eq_true]
      have := ih (kept ++ [x]) k
      rw [List.length_append, List.length_singleton, Nat.add_right_comm _ 1 k] at this
      simpa [replay, hd] using this

theorem expunge_replay (doomed : Link → Bool) (xs : List Link) :
    replay xs (notices doomed 1 0 xs) = xs.filter (fun l => !doomed l) := by
  simpa using replay_notices doomed [] xs 0

theorem filter_le_head (a : Nat) (l : List Nat) (h : (a :: l).Pairwise (· < ·)) :
    (a :: l).filter (· ≤ a) = [a] := by
  rw [List.pairwise_cons] at h
  simp only [List.filter_cons, Nat.le_refl, decide_true, if_true]
  congr 1
  apply List.filter_eq_nil_iff.mpr
  intro x hx
  have := h.1 x hx
  simp only [decide_eq_true_eq]; omega

/-- in a strictly ascending list, the number of elements `≤ l[i]` is `i + 1`: rank by `COUNT(uid <= ?)` equals
rank by `OFFSET`/`ROW_NUMBER` -/
theorem count_le_eq_index (l : List Nat) (h : l.Pairwise (· < ·)) (i : Nat) (x : Nat) (hx : l[i]? = some x) :
    (l.filter (· ≤ x)).length = i + 1 := by
  induction l generalizing i with
  | nil => simp at hx
  | cons a as ih =>
    cases i with
    | zero =>
      simp only [List.getElem?_cons_zero, Option.some.injEq] at hx; subst hx
      rw [filter_le_head a as h]; rfl
    | succ j =>
      simp only [List.getElem?_cons_succ] at hx
      have hp := List.pairwise_cons.mp h
      have hmem : x ∈ as := List.mem_of_getElem? hx
      have hax : a < x := hp.1 x hmem
      simp only [List.filter_cons, show decide (a ≤ x) = true by simp; omega, if_true, List.length_cons]
      rw [ih hp.2 j hx]

end Raven.Mail
