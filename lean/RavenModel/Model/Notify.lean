/-! The counters behind `* n EXISTS`: what NOOP, the command loop's `announceNewMessages` and IDLE tell a session that keeps a
mailbox selected while messages arrive.  The session keeps `last` (`state.LastMessageCount`: the count it has announced);
IDLE keeps a counter of its own (`prev`, a local of `HandleIdle`) and leaves `last` alone.  `told` is the client's side: the
number of messages it knows of.  Removals by other sessions are outside this model (finding C09-F1); the session's own
EXPUNGE is `Model/SessionView`. -/
namespace Raven.Notify

structure St where
  srv : Nat    -- messages in the mailbox
  last : Nat   -- state.LastMessageCount
  prev : Nat   -- HandleIdle's prevCount
  told : Nat   -- the client's count: the last EXISTS it received
deriving Repr, DecidableEq

inductive Ev where
  | arrive                 -- a delivery, another session's APPEND or COPY
  | noop                   -- NOOP / CHECK / announceNewMessages: `if count > last then EXISTS count`; `last := count`
  | idleBegin              -- `prevCount := count`
  | idlePoll               -- `if count > prevCount then EXISTS count`; `prevCount := count`
  | idleEnd                -- DONE: nothing is written back
  | idleEndWriteBack       -- the variant that stores IDLE's counter in the session (`state.LastMessageCount = prevCount`)
deriving Repr, DecidableEq

def step (s : St) : Ev → St
  | .arrive => { s with srv := s.srv + 1 }
  | .noop => { s with told := if s.srv > s.last then s.srv else s.told, last := s.srv }
  | .idleBegin => { s with prev := s.srv }
  | .idlePoll => { s with told := if s.srv > s.prev then s.srv else s.told, prev := s.srv }
  | .idleEnd => s
  | .idleEndWriteBack => { s with last := s.prev }

def run (s : St) (es : List Ev) : St := es.foldl step s

/-- SELECT: the client is told the count, the session records it -/
def select (n : Nat) : St := ⟨n, n, 0, n⟩

def Inv (s : St) : Prop := s.last ≤ s.told ∧ s.told ≤ s.srv

/-- the events of the code as it is: all but the variant of IDLE's end that writes its counter back -/
def current : Ev → Bool
  | .idleEndWriteBack => false
  | _ => true

theorem inv_select (n : Nat) : Inv (select n) := ⟨Nat.le_refl _, Nat.le_refl _⟩

theorem inv_step (s : St) (e : Ev) (h : Inv s) (he : current e = true) : Inv (step s e) := by
  obtain ⟨h1, h2⟩ := h
  cases e with
  | arrive => exact ⟨h1, Nat.le_succ_of_le h2⟩
  | noop =>
    simp only [step, Inv]
    split
    · exact ⟨Nat.le_refl _, Nat.le_refl _⟩
    · exact ⟨Nat.le_trans (Nat.le_of_not_gt ‹_›) h1, h2⟩
  | idlePoll =>
    simp only [step, Inv]
    split
    · exact ⟨Nat.le_trans h1 h2, Nat.le_refl _⟩
    · exact ⟨h1, h2⟩
  | idleEndWriteBack => cases he
  | _ => exact ⟨h1, h2⟩

theorem inv_run (es : List Ev) : ∀ (s : St), Inv s → (∀ e ∈ es, current e = true) → Inv (run s es) := by
  induction es with
  | nil => intro s h _; exact h
  | cons e es ih =>
    intro s h hall
    exact ih (step s e) (inv_step s e h (hall e (List.mem_cons_self ..))) (fun x hx => hall x (List.mem_cons_of_mem _ hx))

theorem noop_tells_all (s : St) (h : Inv s) : (step s .noop).told = (step s .noop).srv := by
  obtain ⟨h1, h2⟩ := h
  simp only [step]
  split
  · rfl
  · exact Nat.le_antisymm h2 (Nat.le_trans (Nat.le_of_not_gt ‹_›) h1)

end Raven.Notify
