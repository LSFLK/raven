import RavenModel.Model.Flags
/-! The per-store mailbox machine: what IMAP commands and LMTP deliveries do to one store (a user's or a role
mailbox's SQLite file), at the level the properties observe: mailbox names, UIDVALIDITY, UIDNEXT, the links
(UID, message, flags) of every mailbox and the subscription list. Mirrors db/user_schema.go, message.go, uid.go,
selection.go, mailbox.go. Ghost state (`inc`, `log`) records incarnations and every UID assignment ever made. -/
namespace Raven.Mail
open Raven Raven.GoStr Raven.Flags

structure Link where
  uid : Nat
  msg : Nat
  flags : List Bytes
deriving Repr, DecidableEq

structure Mbox where
  name : Bytes
  validity : Nat
  uidNext : Nat
  links : List Link      -- ascending UID order
  inc : Nat              -- ghost: incarnation number, never reused
deriving Repr, DecidableEq

structure Entry where    -- ghost: one UID assignment
  inc : Nat
  name : Bytes
  validity : Nat
  uid : Nat
  msg : Nat
deriving Repr, DecidableEq

structure Store where
  boxes : List Mbox
  subs : List Bytes
  nextInc : Nat
  log : List Entry       -- newest first
  vseq : Nat := 0        -- `uid_validity_seq.last`: the last UIDVALIDITY this store has issued
deriving Repr

def inboxName : Bytes := b!"INBOX"
def spamName : Bytes := b!"Spam"
def defaultNames : List Bytes := [b!"INBOX", b!"Sent", b!"Drafts", b!"Trash", b!"Spam"]

/-- a freshly initialised store (`createDefaultMailboxes`), created at clock reading `now` -/
def Store.init (now : Nat) : Store :=
  { boxes := (defaultNames.zipIdx).map (fun (n, i) => { name := n, validity := now + i, uidNext := 1, links := [], inc := i })
    subs := []
    nextInc := defaultNames.length
    log := []
    vseq := now + (defaultNames.length - 1) }

/-- `nextUIDValidity`: the clock reading, or the successor of the last value issued, whichever is larger -/
def Store.freshValidity (s : Store) (now : Nat) : Nat := max (s.vseq + 1) now

def Store.find (s : Store) (n : Bytes) : Option Mbox := s.boxes.find? (fun b => b.name = n)
def Store.has (s : Store) (n : Bytes) : Bool := s.boxes.any (fun b => b.name = n)
def Store.modify (s : Store) (n : Bytes) (f : Mbox → Mbox) : Store :=
  { s with boxes := s.boxes.map (fun b => if b.name = n then f b else b) }

/-- exact-token flag test, ASCII case-insensitive (`hasFlag`, and `(' '||flags||' ') LIKE '% \Deleted %'`) -/
def hasTok (flags : List Bytes) (t : Bytes) : Bool := flags.any (fun f => equalFold f t)

/-! ### adding links: `uid := uid_next; uid_next := uid_next + 1; INSERT` (one atomic allocation) -/
def Mbox.push (b : Mbox) (msg : Nat) (flags : List Bytes) : Mbox :=
  { b with uidNext := b.uidNext + 1, links := b.links ++ [{ uid := b.uidNext, msg := msg, flags := flags }] }

def Mbox.entry (b : Mbox) (msg : Nat) : Entry :=
  { inc := b.inc, name := b.name, validity := b.validity, uid := b.uidNext, msg := msg }

/-- add one message to mailbox `n`; `none` when the mailbox does not exist -/
def Store.add (s : Store) (n : Bytes) (msg : Nat) (flags : List Bytes) : Store × Option Nat :=
  match s.find n with
  | none => (s, none)
  | some b => ({ s.modify n (fun b => b.push msg flags) with log := b.entry msg :: s.log }, some b.uidNext)

def Store.addMany (s : Store) (n : Bytes) : List (Nat × List Bytes) → Store
  | [] => s
  | (msg, fl) :: rest => ((s.add n msg fl).1).addMany n rest

/-! ### COPY / UID COPY -/
def copyFlags (fl : List Bytes) : List Bytes :=
  if fl.any (fun f => containsSub f recent) then fl else fl ++ [recent]

inductive Res where | ok | no | bad
deriving Repr, DecidableEq

/-- COPY of the links at `ranks` (1-based, resolved against the source before anything is inserted) -/
def Store.copy (s : Store) (src : Bytes) (ranks : List Nat) (dst : Bytes) : Store × Res :=
  match s.find src with
  | none => (s, .no)
  | some sb =>
    if ranks.isEmpty then (s, .bad)
    else if !s.has dst then (s, .no)
    else
      let picked := ranks.map (fun r => sb.links[r - 1]?)
      if picked.all Option.isSome = false then (s, .no)
      else (s.addMany dst (picked.filterMap (fun o => o.map (fun l => (l.msg, copyFlags l.flags)))), .ok)

/-- UID COPY: the UIDs present in the set, in the parser's order -/
def Store.uidCopy (s : Store) (src : Bytes) (uids : List Nat) (dst : Bytes) : Store × Res :=
  match s.find src with
  | none => (s, .no)
  | some sb =>
    if uids.isEmpty then (s, .ok)
    else if !s.has dst then (s, .no)
    else
      let picked := uids.filterMap (fun u => sb.links.find? (fun l => l.uid = u))
      (s.addMany dst (picked.map (fun l => (l.msg, copyFlags l.flags))), .ok)

/-! ### STORE / UID STORE with the Junk / NonJunk auto-move -/
inductive Note where
  | fetch (rank : Nat) (uid : Nat) (flags : List Bytes)
  | expunge (rank : Nat)
deriving Repr

/-- `MoveMessageToMailbox`: `none` = error (destination missing, or `ErrAlreadyInMailbox` when source = destination:
the caller then stores the flags as usual), `some s'` = moved -/
def Store.move (s : Store) (src : Bytes) (l : Link) (dst : Bytes) (flags : List Bytes) : Option Store :=
  if !s.has dst then none
  else if src = dst then none
  else
    let s1 := (s.add dst l.msg flags).1
    some (s1.modify src (fun b => { b with links := b.links.filter (fun x => x.uid ≠ l.uid) }))

/-- one message of a STORE / UID STORE: the link is addressed by `(mailbox, uid)` -/
def Store.storeOne (s : Store) (box : Bytes) (l : Link) (rank : Nat) (new : List Bytes) (mode : Mode) :
    Store × List Note :=
  let upd := newFlags l.flags new mode
  let junkAdded := !(junk ∈ l.flags) && (junk ∈ upd)
  let nonJunkAdded := !(nonJunk ∈ l.flags) && (nonJunk ∈ upd)
  let setFlags (s : Store) : Store × List Note :=
    (s.modify box (fun b => { b with links := b.links.map (fun x =>
        if x.uid = l.uid then { x with flags := upd } else x) }),
     [.fetch rank l.uid upd])
  if junkAdded then
    match s.move box l spamName (upd.filter (· ≠ nonJunk)) with
    | some s' => (s', [.expunge rank])
    | none => setFlags s
  else if nonJunkAdded then
    match s.move box l inboxName (upd.filter (· ≠ junk)) with
    | some s' => (s', [.expunge rank])
    | none => setFlags s
  else setFlags s

def rankOf (links : List Link) (uid : Nat) : Nat := (links.filter (fun l => l.uid ≤ uid)).length

def Store.storeUid (s : Store) (box : Bytes) (new : List Bytes) (mode : Mode) : List Nat → Store × List Note
  | [] => (s, [])
  | u :: us =>
    match (s.find box).bind (fun b => (b.links.find? (fun l => l.uid = u)).map (fun l => (l, rankOf b.links u))) with
    | none => s.storeUid box new mode us
    | some (l, r) =>
      let (s1, n1) := s.storeOne box l r new mode
      let (s2, n2) := s1.storeUid box new mode us
      (s2, n1 ++ n2)

/-- STORE: the sequence numbers are resolved to messages before anything is changed (a Junk / NonJunk move renumbers what is
behind it); each addressed message is then handled like a UID STORE of it, its notice carrying its number at that moment -/
def Store.storeSeq (s : Store) (box : Bytes) (new : List Bytes) (mode : Mode) (ranks : List Nat) : Store × List Note :=
  match s.find box with
  | none => (s, [])
  | some b => s.storeUid box new mode (ranks.filterMap (fun r => (b.links[r - 1]?).map (·.uid)))

/-! ### EXPUNGE, UID EXPUNGE, CLOSE -/
/-- notices of an expunge: original rank minus the number already announced -/
def notices (doomed : Link → Bool) : (rank : Nat) → (gone : Nat) → List Link → List Nat
  | _, _, [] => []
  | r, k, l :: ls => if doomed l then (r - k) :: notices doomed (r + 1) (k + 1) ls else notices doomed (r + 1) k ls

def Store.expungeBy (s : Store) (box : Bytes) (doomed : Link → Bool) : Store × List Nat :=
  match s.find box with
  | none => (s, [])
  | some b => (s.modify box (fun b => { b with links := b.links.filter (fun l => !doomed l) }), notices doomed 1 0 b.links)

def isDeleted (l : Link) : Bool := hasTok l.flags deleted
def Store.expunge (s : Store) (box : Bytes) : Store × List Nat := s.expungeBy box isDeleted
def Store.uidExpunge (s : Store) (box : Bytes) (uids : List Nat) : Store × List Nat :=
  s.expungeBy box (fun l => isDeleted l && uids.contains l.uid)

/-! ### mailbox names: CREATE, DELETE, RENAME, SUBSCRIBE, UNSUBSCRIBE -/
def slash : Bytes := [b_slash]

/-- proper ancestors of `a/b/c`: `a`, `a/b` (`strings.Split` + `Join` of the leading components) -/
def ancestors (name : Bytes) : List Bytes :=
  let comps := splitOn b_slash name
  ((List.range (comps.length - 1)).map (fun i => joinWith b_slash (comps.take (i + 1)))).filter
    (fun a => toUpper a ≠ inboxName)    -- INBOX exists under every spelling: never created as an implied parent

def Store.newBox (s : Store) (n : Bytes) (now : Nat) : Store :=
  if n = [] ∨ s.has n then s
  else { s with boxes := s.boxes ++ [{ name := n, validity := s.freshValidity now, uidNext := 1, links := [], inc := s.nextInc }]
                nextInc := s.nextInc + 1
                vseq := s.freshValidity now }

def Store.newBoxes (s : Store) (ns : List Bytes) (now : Nat) : Store := ns.foldl (fun s n => s.newBox n now) s

/-- `Roles/`: the part of the hierarchy under which SELECT and EXAMINE address role mailboxes; no personal mailbox is created
or moved there (repair 817e6d4) -/
def rolesPrefix : Bytes := b!"Roles/"
/-- `isRoleMailboxPath`: the folder `Roles` itself and everything below it -/
def underRoles (n : Bytes) : Bool := n = (b!"Roles") || hasPrefix n rolesPrefix

/-- `HandleCreate` (argument as tokenised: quotes trimmed, one trailing `/` removed) -/
def Store.create (s : Store) (arg : Bytes) (now : Nat) : Store × Res :=
  let n := trimSuffix (trimQuotes arg) slash
  if n = [] then (s, .no)
  else if toUpper n = inboxName then (s, .no)
  else if underRoles n then (s, .no)
  else if s.has n then (s, .no)
  else ((s.newBoxes (ancestors n) now).newBox n now, .ok)

/-- children by exact, case-sensitive prefix `name/` -/
def isChildOf (parent child : Bytes) : Bool := hasPrefix child (parent ++ slash)

def protectedNames : List Bytes := [b!"Sent", b!"Drafts", b!"Trash"]

/-- `HandleDelete` + `DeleteMailboxPerUser` -/
def Store.delete (s : Store) (arg : Bytes) : Store × Res :=
  let n := trimQuotes arg
  if n = [] then (s, .bad)
  else if toUpper n = inboxName then (s, .no)
  else if !s.has n then (s, .no)
  else if s.boxes.any (fun b => isChildOf n b.name) then (s, .no)
  else if protectedNames.any (fun p => equalFold n p) then (s, .no)
  else ({ s with boxes := s.boxes.filter (fun b => b.name ≠ n) }, .ok)

def relog (b : Mbox) : List Entry :=
  (b.links.map (fun l => ({ inc := b.inc, name := b.name, validity := b.validity, uid := l.uid, msg := l.msg } : Entry))).reverse

/-- what RENAME does to one name: the mailbox itself, and everything below `old/` keeps its suffix -/
def renamedName (o n m : Bytes) : Bytes :=
  if m = o then n else if isChildOf o m then n ++ m.drop o.length else m

def namesNodup (bs : List Mbox) : Bool := decide ((bs.map (fun b => b.name)).Nodup)

/-- `HandleRename` + `RenameMailboxPerUser` / `renameInboxPerUser` -/
def Store.rename (s : Store) (oldArg newArg : Bytes) (now : Nat) : Store × Res :=
  let o := trimQuotes oldArg
  let n := trimQuotes newArg
  if o = [] ∨ n = [] then (s, .bad)
  else if underRoles (trimSuffix n slash) then (s, .no)
  else if toUpper n = inboxName then (s, .no)
  else if toUpper o = inboxName then
    -- INBOX: a new mailbox takes over the links and continues INBOX's UID sequence; INBOX stays, empty
    if s.has n then (s, .no)
    else match s.find inboxName with
      | none => (s, .no)
      | some ib =>
        let nb : Mbox := { name := n, validity := s.freshValidity now, uidNext := ib.uidNext, links := ib.links, inc := s.nextInc }
        ({ s with boxes := (s.boxes.map (fun b => if b.name = inboxName then { b with links := [] } else b)) ++ [nb]
                  nextInc := s.nextInc + 1
                  vseq := s.freshValidity now
                  log := relog nb ++ s.log }, .ok)
  else if !s.has o then (s, .no)
  else if s.has n then (s, .no)
  else
    let s1 := s.newBoxes (ancestors n) now
    -- the mailbox itself, and every *other* mailbox whose name starts with `old/` (exact prefix), in one transaction
    let renamed := s1.boxes.map (fun b => { b with name := renamedName o n b.name })
    if namesNodup renamed then ({ s1 with boxes := renamed }, .ok) else (s1, .no)

def stripQuotes (a : Bytes) : Bytes :=
  if a.length ≥ 2 ∧ a.head? = some b_dq ∧ a.getLast? = some b_dq then (a.drop 1).take (a.length - 2) else a

def Store.subscribe (s : Store) (arg : Bytes) : Store × Res :=
  let n := stripQuotes arg
  if n = [] then (s, .bad) else (if n ∈ s.subs then s else { s with subs := s.subs ++ [n] }, .ok)

def Store.unsubscribe (s : Store) (arg : Bytes) : Store × Res :=
  let n := stripQuotes arg
  if n = [] then (s, .bad)
  else if n ∈ s.subs then ({ s with subs := s.subs.filter (· ≠ n) }, .ok) else (s, .no)

/-- LSUB's view: an empty list is presented as the default mailboxes -/
def Store.shownSubs (s : Store) : List Bytes := if s.subs.isEmpty then defaultNames else s.subs

end Raven.Mail
