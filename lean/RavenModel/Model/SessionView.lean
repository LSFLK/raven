import RavenModel.Model.Expunge
/-! The view of a session that keeps a mailbox selected while messages arrive from outside (deliveries, other sessions'
APPEND and COPY): what it has been told of (`EXISTS` when it asks — NOOP, IDLE — minus the `EXPUNGE` notices it received)
against the mailbox as it is. `HandleExpunge` / `handleUIDExpunge` number their notices in the mailbox as it is *now*; the
session applies them to what it has been told. -/
namespace Raven.SessionView
open Raven Raven.Mail

structure St where
  srv : List Link      -- the selected mailbox as it is, ascending UID
  view : List Link     -- what the session has been told of
deriving Repr

inductive Ev where
  | arrive (l : Link)                 -- a message is added by someone else (at the end: UIDs ascend)
  | noop                              -- NOOP / an IDLE poll: `* n EXISTS` when the mailbox has grown
  | expunge (doomed : Link → Bool)    -- the session's own EXPUNGE / UID EXPUNGE

/-- the notices of an expunge as the code numbers them: ranks in the mailbox as it is -/
def expungeNotices (s : St) (doomed : Link → Bool) : List Nat := notices doomed 1 0 s.srv

/-- the code before repair 525a68f: the notices go out as they are -/
def stepOld (s : St) : Ev → St
  | .arrive l => { s with srv := s.srv ++ [l] }
  | .noop => { s with view := s.srv }
  | .expunge d => { srv := s.srv.filter (fun l => !d l), view := replay s.view (expungeNotices s d) }

/-- since the repair the command loop sends the pending `* n EXISTS` before it dispatches EXPUNGE / UID EXPUNGE: the session
knows the whole mailbox when the notices come -/
def step (s : St) : Ev → St
  | .arrive l => { s with srv := s.srv ++ [l] }
  | .noop => { s with view := s.srv }
  | .expunge d => { srv := s.srv.filter (fun l => !d l), view := replay s.srv (expungeNotices s d) }

def run (s : St) (evs : List Ev) : St := evs.foldl step s

/-- can a (strict) client apply the notices, one after the other, to a view of `n` messages? -/
def applicable : Nat → List Nat → Bool
  | _, [] => true
  | n, k :: ks => 1 ≤ k && k ≤ n && applicable (n - 1) ks

def Inv (s : St) : Prop := ∃ extra, s.srv = s.view ++ extra

theorem inv_select (xs : List Link) : Inv ⟨xs, xs⟩ := ⟨[], by simp⟩

theorem notices_none (doomed : Link → Bool) : ∀ (xs : List Link) (r k : Nat), (∀ l ∈ xs, doomed l = false) →
    notices doomed r k xs = []
  | [], _, _, _ => rfl
  | x :: xs, r, k, h => by
    simp only [notices, h x (by simp), Bool.false_eq_true, if_false]
    exact notices_none doomed xs (r + 1) k (fun l hl => h l (by simp [hl]))

theorem notices_append (doomed : Link → Bool) : ∀ (xs ys : List Link) (r k : Nat), (∀ l ∈ ys, doomed l = false) →
    notices doomed r k (xs ++ ys) = notices doomed r k xs
  | [], ys, r, k, h => by simp [notices, notices_none doomed ys r k h]
  | x :: xs, ys, r, k, h => by
    simp only [List.cons_append, notices]
    split
    · rw [notices_append doomed xs ys (r + 1) (k + 1) h]
    · exact notices_append doomed xs ys (r + 1) k h

/-- the notices of an expunge over a view of which `n` messages have been passed (and `k` more were doomed) are applicable
to it -/
theorem applicable_notices (doomed : Link → Bool) : ∀ (n : Nat) (xs : List Link) (k : Nat),
    applicable (n + xs.length) (notices doomed (n + k + 1) k xs) = true
  | _, [], _ => rfl
  | n, x :: xs, k => by
    simp only [notices]
    split
    · simp only [applicable, Bool.and_eq_true, decide_eq_true_eq, List.length_cons, Mail.notice_eq]
      exact ⟨⟨Nat.le_add_left 1 n, Nat.add_le_add_left (Nat.le_add_left 1 _) n⟩, applicable_notices doomed n xs (k + 1)⟩
    · have := applicable_notices doomed (n + 1) xs k
      rwa [Nat.add_right_comm n 1 k, Nat.add_right_comm n 1 xs.length] at this

/-- **partial** (hypothesis: nothing that arrived since the session's last update is among the doomed): the notices are
applicable to the session's view, and applying them gives the front of the mailbox as it is afterwards -/
theorem expunge_known_partial (s : St) (d : Link → Bool) (extra : List Link) (hs : s.srv = s.view ++ extra)
    (hx : ∀ l ∈ extra, d l = false) :
    applicable s.view.length (expungeNotices s d) = true ∧ Inv (stepOld s (.expunge d)) := by
  have hn : expungeNotices s d = notices d 1 0 s.view := by
    unfold expungeNotices; rw [hs]; exact notices_append d s.view extra 1 0 hx
  refine ⟨?_, ?_⟩
  · rw [hn]
    have := applicable_notices d 0 s.view 0
    simpa using this
  · refine ⟨extra, ?_⟩
    simp only [stepOld, hn, expunge_replay, hs, List.filter_append]
    congr 1
    apply List.filter_eq_self.mpr
    intro l hl; simp [hx l hl]

theorem noop_syncs (s : St) : (step s .noop).view = (step s .noop).srv := rfl

/-- the statement for the code before the repair: whatever arrived and whatever is doomed, the notices of the session's own
EXPUNGE are applicable to what it has been told of -/
def notices_applicable_old : Prop :=
  ∀ (s : St), Inv s → ∀ d, applicable s.view.length (expungeNotices s d) = true

/-- …refuted: one message known, a second one arrives and is flagged \\Deleted by another session, the session expunges
without having asked: `* 2 EXPUNGE` for a client that has been told of one message. -/
theorem notices_applicable_old_refuted : ¬ notices_applicable_old := by
  intro h
  have := h ⟨[⟨1, 1, []⟩, ⟨2, 2, []⟩], [⟨1, 1, []⟩]⟩ ⟨[⟨2, 2, []⟩], rfl⟩ (fun l => l.uid == 2)
  revert this; decide

/-- **since the repair**, for every state: the notices of the session's own EXPUNGE are applicable to what it has been told
of by then (the whole mailbox), and applying them gives exactly the mailbox as it is afterwards -/
theorem expunge_view (s : St) (d : Link → Bool) :
    applicable s.srv.length (expungeNotices s d) = true ∧ (step s (.expunge d)).view = (step s (.expunge d)).srv := by
  refine ⟨?_, ?_⟩
  · have := applicable_notices d 0 s.srv 0
    simpa [expungeNotices] using this
  · simp [step, expungeNotices, expunge_replay]

theorem inv_step (s : St) (e : Ev) (h : Inv s) : Inv (step s e) := by
  cases e with
  | arrive l =>
    obtain ⟨e, he⟩ := h
    exact ⟨e ++ [l], by simp [step, he]⟩
  | noop => exact ⟨[], by simp [step]⟩
  | expunge d => exact ⟨[], by simp [(expunge_view s d).2]⟩

/-- for every interleaving of arrivals, the session's own expunges and its polls: what the session has been told of is always
the front of the mailbox (right after a poll or an expunge it is the whole mailbox: `noop_syncs`, `expunge_view`) -/
theorem inv_run (s : St) (evs : List Ev) (h : Inv s) : Inv (run s evs) := by
  induction evs generalizing s with
  | nil => exact h
  | cons e es ih => exact ih (step s e) (inv_step s e h)

end Raven.SessionView
