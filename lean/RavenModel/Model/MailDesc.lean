import RavenModel.Model.MailInv
/-! What a store keeps of its past (C03): every mailbox of a later store either continues a mailbox of the earlier one — same
incarnation, same UIDVALIDITY, UIDNEXT at least as large — or is new, numbered from the earlier store's incarnation counter
upwards and carrying a UIDVALIDITY above every value the earlier store had issued (the store's `uid_validity_seq`, repair
090198b). With the per-store invariant `VInv` this makes UIDVALIDITY identify an incarnation across the whole history. -/
namespace Raven.Mail
open Raven

structure Desc (s s' : Store) : Prop where
  inc : s.nextInc ≤ s'.nextInc
  vseq : s.vseq ≤ s'.vseq
  box : ∀ b' ∈ s'.boxes,
    (∃ b ∈ s.boxes, b.inc = b'.inc ∧ b.validity = b'.validity ∧ b.uidNext ≤ b'.uidNext) ∨
    (s.nextInc ≤ b'.inc ∧ s.vseq < b'.validity)

structure VInv (s : Store) : Prop where
  bound : ∀ b ∈ s.boxes, b.validity ≤ s.vseq
  inj : ∀ b ∈ s.boxes, ∀ c ∈ s.boxes, b.validity = c.validity → b.inc = c.inc

/-- a pair, so that one pass of `run_rel` carries both -/
structure Evolves (s t : Store) : Prop where
  desc : Desc s t
  vinv : VInv s → VInv t

theorem Evolves.refl (s : Store) : Evolves s s :=
  ⟨⟨Nat.le_refl _, Nat.le_refl _, fun b hb => .inl ⟨b, hb, rfl, rfl, Nat.le_refl _⟩⟩, id⟩

theorem Evolves.trans {a b c : Store} (h1 : Evolves a b) (h2 : Evolves b c) : Evolves a c := by
  refine ⟨⟨Nat.le_trans h1.desc.inc h2.desc.inc, Nat.le_trans h1.desc.vseq h2.desc.vseq, fun x hx => ?_⟩, h2.vinv ∘ h1.vinv⟩
  rcases h2.desc.box x hx with ⟨y, hy, hi, hv, hu⟩ | ⟨hi, hv⟩
  · rcases h1.desc.box y hy with ⟨z, hz, hi', hv', hu'⟩ | ⟨hi', hv'⟩
    · exact .inl ⟨z, hz, hi'.trans hi, hv'.trans hv, Nat.le_trans hu' hu⟩
    · exact .inr ⟨hi ▸ hi', hv ▸ hv'⟩
  · exact .inr ⟨Nat.le_trans h1.desc.inc hi, Nat.lt_of_le_of_lt h1.desc.vseq hv⟩

theorem evolves_map {s t : Store} (f : Mbox → Mbox) (hb : t.boxes = s.boxes.map f) (hn : t.nextInc = s.nextInc)
    (hv : t.vseq = s.vseq) (hf : ∀ b, (f b).inc = b.inc ∧ (f b).validity = b.validity ∧ b.uidNext ≤ (f b).uidNext) :
    Evolves s t := by
  have mem : ∀ b' ∈ t.boxes, ∃ b ∈ s.boxes, f b = b' := fun b' h => List.mem_map.mp (hb ▸ h)
  refine ⟨⟨Nat.le_of_eq hn.symm, Nat.le_of_eq hv.symm, fun b' hb' => ?_⟩,
    fun hi => ⟨fun b' hb' => ?_, fun b' hb' c' hc' e => ?_⟩⟩
  · obtain ⟨b, hb, rfl⟩ := mem b' hb'
    exact .inl ⟨b, hb, (hf b).1.symm, (hf b).2.1.symm, (hf b).2.2⟩
  · obtain ⟨b, hb, rfl⟩ := mem b' hb'
    rw [hv, (hf b).2.1]; exact hi.bound b hb
  · obtain ⟨b, hb, rfl⟩ := mem b' hb'
    obtain ⟨c, hc, rfl⟩ := mem c' hc'
    rw [(hf b).1, (hf c).1]
    exact hi.inj b hb c hc (by rw [← (hf b).2.1, ← (hf c).2.1]; exact e)

theorem evolves_prim {s t : Store} (h : Prim s t) : Evolves s t := by
  cases h with
  | links n hg =>
    exact evolves_map (fun b => if b.name = n then { b with links := _ } else b) rfl rfl rfl
      fun b => by split <;> exact ⟨rfl, rfl, Nat.le_refl _⟩
  | add n msg fl _ =>
    exact evolves_map (fun b => if b.name = n then b.push msg fl else b) rfl rfl rfl
      fun b => by split <;> exact ⟨rfl, rfl, by simp [Mbox.push]⟩
  | push nb now _ hinc hval _ =>
    have hgt : s.vseq < s.freshValidity now := Nat.lt_of_lt_of_le (Nat.lt_succ_self _) (Nat.le_max_left ..)
    refine ⟨⟨Nat.le_succ _, Nat.le_of_lt hgt, List.forall_mem_append.mpr
        ⟨fun b hb => .inl ⟨b, hb, rfl, rfl, Nat.le_refl _⟩,
         List.forall_mem_singleton.mpr (.inr ⟨Nat.le_of_eq hinc.symm, hval ▸ hgt⟩)⟩⟩,
      fun hi => ⟨List.forall_mem_append.mpr
        ⟨fun b hb => Nat.le_trans (hi.bound b hb) (Nat.le_of_lt hgt), List.forall_mem_singleton.mpr (Nat.le_of_eq hval)⟩,
        fun b hb c hc e => ?_⟩⟩
    · -- an old mailbox's UIDVALIDITY is at most `vseq`, the new one's is above it
      have old : ∀ b ∈ s.boxes, b.validity ≠ nb.validity := fun b hb e =>
        Nat.lt_irrefl _ (Nat.lt_of_le_of_lt (hi.bound b hb) (e ▸ hval ▸ hgt))
      rcases List.mem_append.mp hb with hb | hb <;> rcases List.mem_append.mp hc with hc | hc
      · exact hi.inj b hb c hc e
      · cases List.mem_singleton.mp hc; exact (old b hb e).elim
      · cases List.mem_singleton.mp hb; exact (old c hc e.symm).elim
      · cases List.mem_singleton.mp hb; cases List.mem_singleton.mp hc; rfl
  | drop p =>
    exact ⟨⟨Nat.le_refl _, Nat.le_refl _, fun b hb => .inl ⟨b, (List.mem_filter.mp hb).1, rfl, rfl, Nat.le_refl _⟩⟩,
      fun hi => ⟨fun b hb => hi.bound b (List.mem_filter.mp hb).1,
        fun b hb c hc => hi.inj b (List.mem_filter.mp hb).1 c (List.mem_filter.mp hc).1⟩⟩
  | rename f _ => exact evolves_map _ rfl rfl rfl fun _ => ⟨rfl, rfl, Nat.le_refl _⟩

theorem evolves_run (s : Store) (ops : List Op) : Evolves s (run s ops) :=
  run_rel Evolves.refl Evolves.trans evolves_prim
    (fun _ _ => evolves_map id (List.map_id _).symm rfl rfl fun _ => ⟨rfl, rfl, Nat.le_refl _⟩) ops s

theorem desc_run (s : Store) (ops : List Op) : Desc s (run s ops) := (evolves_run s ops).desc

/-- with distinct incarnation numbers below `nextInc` in the earlier store (part of `Inv`), descent is monotonicity of
UIDNEXT per incarnation -/
theorem uidNext_le_of_desc {s s' : Store} (hi : Inv s) (hd : Desc s s') :
    ∀ b ∈ s.boxes, ∀ b' ∈ s'.boxes, b'.inc = b.inc → b.uidNext ≤ b'.uidNext := by
  intro b hb b' hb' hinc
  rcases hd.box b' hb' with ⟨b0, hb0, hinc0, -, hle⟩ | ⟨hnew, -⟩
  · cases eq_of_key (·.inc) hi.incs hb0 hb (hinc0.trans hinc); exact hle
  · exact absurd (hi.incLt b hb) (by omega)

theorem vinv_init (now : Nat) : VInv (Store.init now) := by
  have h : ∀ b ∈ (Store.init now).boxes, b.validity = now + b.inc ∧ b.inc < defaultNames.length := fun b hb => by
    obtain ⟨⟨n, i⟩, hm, rfl⟩ := List.mem_map.mp hb
    exact ⟨rfl, (List.mem_zipIdx' hm).1⟩
  refine ⟨fun b hb => ?_, fun b hb c hc e => ?_⟩
  · obtain ⟨hv, hl⟩ := h b hb; exact hv ▸ Nat.add_le_add_left (Nat.le_sub_one_of_lt hl) now
  · have := h b hb; have := h c hc; omega

/-- **UIDVALIDITY identifies the incarnation, across the whole history**: a mailbox of an earlier store and a mailbox of any
continuation with the same UIDVALIDITY are the same incarnation -/
theorem validity_identifies_incarnation (now : Nat) (ops more : List Op) :
    ∀ b ∈ (run (Store.init now) ops).boxes, ∀ b' ∈ (run (Store.init now) (ops ++ more)).boxes,
      b.validity = b'.validity → b.inc = b'.inc := by
  rw [run_append]
  intro b hb b' hb' hv
  have hi := (evolves_run _ ops).vinv (vinv_init now)
  rcases (desc_run _ more).box b' hb' with ⟨b0, hb0, hinc, hv0, -⟩ | ⟨-, hnew⟩
  · exact hinc ▸ hi.inj b hb b0 hb0 (hv.trans hv0.symm)
  · exact absurd (hi.bound b hb) (by omega)

end Raven.Mail
