import RavenModel.Model.Slices
import RavenModel.Model.Search
import RavenModel.Gen.Facts
/-! # C12 — no input can take a service down

Three layers. (1) Over the table of `go` statements regenerated from the source: every goroutine that serves a connection
installs a deferred `recover`, every other goroutine is one of the known accept loops, and the service packages contain no
call that ends the process; with the process model below a panic then ends one connection and nothing else. (2) The
hand-written slicing cores are total functions: no input reaches a slice out of range. (3) The malformed-input sweep with a
canary session (harness/cmd/c12) ties (1) and (2) to the running services and searches for what no model covers. -/
namespace Raven.Props.C12
open Raven Raven.Slices

/-- goroutines whose body reads bytes a client sent -/
def isConnRoot (g : Gen.GoFact) : Bool :=
  (g.pkg = (b!"lmtp") && g.target = (b!"s.handleConnection")) ||
  (g.pkg = (b!"sasl") && g.target = (b!"s.handleConnection")) ||
  (g.pkg = (b!"cmd_server") && (g.target = (b!"imapServer.HandleConnection") || g.target = (b!"imapServer.HandleSSLConnection")))

/-- goroutines that only accept connections, wait for signals or run a listener: no client byte reaches them -/
def isInfra (g : Gen.GoFact) : Bool :=
  (g.target = (b!"s.acceptConnections") && (g.pkg = (b!"lmtp") || g.pkg = (b!"sasl"))) ||
  (g.target = (b!"func-literal") && g.inFunc = (b!"main") &&
    (g.pkg = (b!"cmd_server") || g.pkg = (b!"cmd_delivery") || g.pkg = (b!"cmd_sasl")))

/-- every `go` statement of the three services is classified: a new goroutine (say, a helper spawned per IDLE) breaks this
until it is looked at -/
theorem roots_classified : Gen.goroutines.all (fun g => isConnRoot g || isInfra g) = true := by decide +kernel

/-- every connection-serving goroutine defers a recover -/
theorem roots_recover : Gen.goroutines.all (fun g => !isConnRoot g || g.recovers) = true := by decide +kernel

/-- non-vacuity: the table does contain the connection roots of all three services -/
theorem roots_present : (Gen.goroutines.filter isConnRoot).length = 4 := by decide +kernel

/-- no `panic`, `os.Exit`, `log.Fatal*` in the service packages -/
theorem no_exit_calls : Gen.exitCalls.length = 0 := by decide

/-- every loop that takes connections off a listener (IMAP 143 and 993 in cmd/server, LMTP, SASL) goes round again after a
failed `Accept` — out of descriptors, a connection reset before it was accepted — and leaves only through the service's own
shutdown channel: one failed accept does not end the service (regenerated from /repo on every run). -/
theorem accept_loops_persist :
    Gen.acceptLoops.length = 4 ∧ Gen.acceptLoops.all (fun a => !a.leavesOnError && a.continues) = true := by decide

/-! ### what a recover at the root buys (Go's semantics of panic / recover, stated as a model: trusted) -/
structure G where
  id : Nat
  recovers : Bool
  conn : Bool            -- serves a connection (its input is the adversary's)
deriving DecidableEq

structure Proc where
  alive : Bool
  gs : List G

inductive Ev where
  | spawn (g : G)
  | panicIn (id : Nat)   -- a run-time panic (slice out of range, nil map, failed assertion …) inside goroutine `id`
  | finish (id : Nat)

def step (p : Proc) : Ev → Proc
  | .spawn g => { p with gs := g :: p.gs }
  | .finish id => { p with gs := p.gs.filter (·.id ≠ id) }
  | .panicIn id =>
    match p.gs.find? (·.id = id) with
    | some g => if g.recovers then { p with gs := p.gs.filter (·.id ≠ id) } else { alive := false, gs := [] }
    | none => p

/-- panics arise only where client input is processed -/
def connOnly (p : Proc) : Ev → Bool
  | .panicIn id => (p.gs.find? (·.id = id)).all (·.conn)
  | _ => true

def Good (p : Proc) : Prop := p.alive = true ∧ ∀ g ∈ p.gs, g.conn = true → g.recovers = true

theorem step_panic (p : Proc) (id : Nat) (h : Good p) (hc : connOnly p (.panicIn id) = true) :
    step p (.panicIn id) = { p with gs := p.gs.filter (·.id ≠ id) } := by
  simp only [step]
  cases hf : p.gs.find? (·.id = id) with
  | none =>
    -- no goroutine has this id: nothing to remove
    rw [List.filter_eq_self.mpr (fun g hg => by simpa using List.find?_eq_none.mp hf g hg)]
  | some g =>
    have hconn : g.conn = true := by simpa [connOnly, hf] using hc
    simp only [h.2 g (List.mem_of_find?_eq_some hf) hconn, if_true]

theorem step_good (p : Proc) (e : Ev) (h : Good p) (hs : ∀ g, e = .spawn g → g.conn = true → g.recovers = true)
    (hc : connOnly p e = true) : Good (step p e) := by
  cases e with
  | spawn g =>
    exact ⟨h.1, fun x hx hcx => (List.mem_cons.mp hx).elim (fun e => hs x (e ▸ rfl) hcx) (fun hx => h.2 x hx hcx)⟩
  | finish id => exact ⟨h.1, fun x hx => h.2 x (List.mem_filter.mp hx).1⟩
  | panicIn id =>
    rw [step_panic p id h hc]
    exact ⟨h.1, fun x hx => h.2 x (List.mem_filter.mp hx).1⟩

/-- a panic in a connection goroutine removes that goroutine and nothing else: every other goroutine is still there -/
theorem panic_is_local (p : Proc) (id : Nat) (h : Good p) (hc : connOnly p (.panicIn id) = true) (g : G) (hg : g ∈ p.gs)
    (hne : g.id ≠ id) : g ∈ (step p (.panicIn id)).gs := by
  rw [step_panic p id h hc]
  exact List.mem_filter.mpr ⟨hg, by simpa using hne⟩

def runEvs : Proc → List Ev → Proc
  | p, [] => p
  | p, e :: es => runEvs (step p e) es

def Admissible : Proc → List Ev → Prop
  | _, [] => True
  | p, e :: es => (∀ g, e = .spawn g → g.conn = true → g.recovers = true) ∧ connOnly p e = true ∧ Admissible (step p e) es

/-- the process outlives every history of spawns, terminations and panics in which connection goroutines are spawned with a
recover (which `roots_recover` establishes for the code) -/
theorem process_survives : ∀ (es : List Ev) (p : Proc), Good p → Admissible p es → (runEvs p es).alive = true
  | [], _, h, _ => h.1
  | e :: es, p, h, ha => process_survives es (step p e) (step_good p e h ha.1 ha.2.1) ha.2.2

example : Good { alive := true, gs := [{ id := 1, recovers := true, conn := true }, { id := 2, recovers := false, conn := false }] } ∧
    Admissible { alive := true, gs := [{ id := 1, recovers := true, conn := true }, { id := 2, recovers := false, conn := false }] }
      [.panicIn 1, .spawn { id := 3, recovers := true, conn := true }, .panicIn 3] := by
  refine ⟨⟨rfl, by decide⟩, ?_⟩
  simp [Admissible, connOnly, step]

/-- `s[i+len(sub):]` after `i := strings.Index(s, sub)`, `i != -1`, stays inside `s` -/
theorem index_then_slice (sub s : Bytes) (i : Nat) (h : indexSub sub s = some i) :
    (slice s (i + sub.length) s.length).isSome = true ∧ (slice s 0 (i + sub.length)).isSome = true :=
  index_slices sub s i h

/-- the header / body cuts at the first blank line answer for every message -/
theorem header_body_total (msg : Bytes) : (bodyCut msg).isSome = true ∧ (headerCut msg).isSome = true :=
  ⟨bodyCut_total msg, headerCut_total msg⟩

/-- `BODY[…]<start.len>`: for every payload and every pair of integers (negative, beyond the end, as large as one likes)
the cut is defined… -/
theorem partial_total (p : Bytes) (s l : Int) : (partialCut p s l).isSome = true := partialCut_total p s l

/-- …and for a well-formed range it is exactly the announced octets, labelled with the origin -/
theorem partial_exact (p : Bytes) (s l : Int) (hs : 0 ≤ s) (hl : 0 ≤ l) :
    partialCut p s l = some (some s.toNat, (p.drop s.toNat).take l.toNat) := partialCut_spec p s l hs hl

/-- the address-list parser answers for every header value (`>a<` included) -/
theorem address_total (s : Bytes) : (addressList s).isSome = true := addressList_total s

theorem unquote_total (arg : Bytes) : (unquoteCut arg).isSome = true := unquoteCut_total arg

/-- the SEARCH evaluator is a total function on token lists: a key whose argument or sub-key is missing has no value (an
error answer), there is no index beyond the end of the list (shared with C19) -/
theorem search_total (P : Search.Prim) (m : Search.Mode) (fuel : Nat) (ts : List Search.Tok) :
    Search.evalKeys P m fuel ts = none ∨ ∃ b, Search.evalKeys P m fuel ts = some b := by
  cases h : Search.evalKeys P m fuel ts with
  | none => exact Or.inl rfl
  | some b => exact Or.inr ⟨b, rfl⟩

/-- the cuts on inputs that used to end the process -/
theorem witnesses :
    addressList (b!">a<") = some [([], (b!">a<"), [])] ∧
    partialCut (b!"hello") (-5) 10 = some (none, (b!"hello")) ∧
    partialCut (b!"hello") 1 9223372036854775807 = some (some 1, (b!"ello")) ∧
    partialCut (b!"hello") 7 2 = some (some 7, []) := by decide +kernel

/-- address lists: the separating commas, not those inside a quoted display name -/
theorem address_examples :
    addressList (b!"Bob <b@x>, c@y") = some [((b!"Bob"), (b!"b"), (b!"x")), ([], (b!"c"), (b!"y"))] ∧
    addressList (b!"\"Doe, John\" <jd@x>, o@y") = some [((b!"Doe, John"), (b!"jd"), (b!"x")), ([], (b!"o"), (b!"y"))] :=
  ⟨by decide +kernel, addressList_quoted_comma⟩

end Raven.Props.C12
