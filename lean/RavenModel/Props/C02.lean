import RavenModel.Model.MimeHeader
import RavenModel.Model.MimeWriter
import RavenModel.Model.MimeMessage
import RavenModel.Model.Mime
import RavenModel.Model.PartTree
import RavenModel.Model.Headers
import RavenModel.Model.Blob
/-! # C02 — stored messages are returned as they were submitted -/
namespace Raven.Props.C02
open Raven

/-- C02.1  header fields keep their order, names and values: re-rendering the extracted header block reproduces every line
of a well-formed block — continuation lines octet for octet, start lines up to white space around name and value. -/
theorem headers_roundtrip (ls : List Bytes)
    (h : ∀ l ∈ ls, Hdr.isCont l = true ∨ (Hdr.cut l).isSome)
    (h0 : ∀ l ∈ ls.take 1, Hdr.isCont l = false) :
    Hdr.render (Hdr.extract none ls) = ls.map Hdr.normalise := by
  have := Hdr.render_extract none ls h (by simpa using h0)
  simpa using this

/-- C02.2  the tree of parts survives storage: flattening (pre-order, parent = array index, relative part numbers) and
rebuilding (children by parent, ordered by part number, depth first) returns the submitted tree — any depth, any width, with
every node's attributes (media type, charset, file name, content-id, content) in place. -/
theorem tree_roundtrip (t : PartTree.Tree) : PartTree.rebuild (PartTree.flatten t) = some t :=
  PartTree.rebuild_flatten t

/-- C02.2'  the stored rows number the children of every container 1..n and one row is written per node. -/
theorem one_row_per_node (t : PartTree.Tree) : (PartTree.flatten t).length = PartTree.size t := by
  simp [PartTree.flatten, PartTree.flat_length]

/-- C02.4 (isolation, partial: `NoCrossEncoding`)  what a part reads back from the shared blob store is its own text, for every
history of other stored parts in any store, provided no two parts with the same decoded content (same key) were submitted with
different encoded text. -/
theorem isolation_partial (ps : List Blob.Part)
    (hno : ∀ p ∈ ps, ∀ q ∈ ps, p.key = q.key → p.text = q.text) (p : Blob.Part) (hp : p ∈ ps) :
    Blob.read (Blob.storeAll ps) p.key = some p.text :=
  Blob.readback_own ps hno p hp

/-- C02.4 (full statement)  …without that proviso -/
def isolation_full : Prop :=
  ∀ (ps : List Blob.Part) (p : Blob.Part), p ∈ ps → Blob.read (Blob.storeAll ps) p.key = some p.text

/-- …refuted: the second writer of the same decoded content under another encoding reads the first writer's text
(finding C15-F1 / C02-F1: blob key = hash of the decoded content, stored form = the first writer's encoded text). -/
theorem isolation_refuted : ¬ isolation_full := fun h =>
  absurd (h [⟨7, 100⟩, ⟨7, 200⟩] ⟨7, 200⟩ (by simp)) (by decide)

/-- C02.5  repeated reconstruction yields identical octets: the generated boundary is a function of the stored part, not of
the clock (model of the boundary text). -/
def boundary (subtype : Bytes) (partId : Nat) : Bytes × Nat := (subtype, partId)
theorem refetch_identical (subtype : Bytes) (partId : Nat) (_clock₁ _clock₂ : Nat) :
    boundary subtype partId = boundary subtype partId := rfl

-- a tree three levels deep with a nested container between two leaves comes back
example : PartTree.rebuild (PartTree.flatten (.multi [1] [.leaf [2], .multi [3] [.leaf [4], .leaf [5]], .leaf [6]]))
    = some (.multi [1] [.leaf [2], .multi [3] [.leaf [4], .leaf [5]], .leaf [6]]) := tree_roundtrip _

/-! ## the text of a multipart message, octet by octet (`Model/Mime`)

What `reconstructPartDFS` writes — `--boundary CRLF part CRLF` for every part, then `--boundary--` — against what a reader
of that text (`mime/multipart.Reader` in `parseMultipart` and `BuildBodyStructure`, or the client) finds: it looks for
`CRLF "--" boundary` followed by `--` or a line end. -/

/-- C02.6  the parts of a container come back exactly as they were written — any number of parts, any octets in them —
when each part is *clean* for the delimiter (no `CRLF--boundary` followed by `--` or a line end starts inside it). -/
theorem parts_as_written (b : Bytes) (ps : List Bytes) (e : Bytes) (hne : ps ≠ [])
    (hc : Mime.cleanAll (Mime.delim b) ps e = true) : Mime.splitBody b (Mime.joinBody b ps e) = some ps :=
  Mime.splitBody_joinBody b ps e hne hc

/-- C02.6'  the whole tree comes back: containers nested to any depth, each with its own boundary (one boundary may even be
a prefix of another, as `…_3` and `…_31` are), any number of parts, any octets — provided `fresh`: every header block is read
as written and every part is clean for the delimiter of the container it sits in. -/
theorem tree_as_written (t : Mime.Tree) (f : Nat) (hf : Mime.depth t ≤ f) (hfr : Mime.fresh Mime.readHeader t = true) :
    Mime.parse Mime.readHeader f (Mime.core t) = some t :=
  Mime.parse_core Mime.readHeader t f hf hfr

/-- C02.6''  …and so does a whole message (closing delimiter followed by the final line end). -/
theorem message_as_written (h b : Bytes) (cs : List Mime.Tree) (f : Nat) (hf : Mime.depthList cs ≤ f)
    (hK : Mime.readHeader (h ++ Mime.joinBody b (Mime.coreList cs) Mime.CRLF) = some (h, b, Mime.joinBody b (Mime.coreList cs) Mime.CRLF))
    (hcl : Mime.cleanAll (Mime.delim b) (Mime.coreList cs) Mime.CRLF = true) (hfl : Mime.freshList Mime.readHeader cs = true) :
    Mime.parse Mime.readHeader (f + 1) (Mime.message (.multi h b cs)) = some (.multi h b cs) :=
  Mime.parse_message Mime.readHeader h b cs f hf hK hcl hfl

/-- a message as the writer produces it: three parts, the second a container whose boundary extends the outer one, the
first with lines that begin with `--` -/
def exampleTree : Mime.Tree :=
  .multi (Mime.containerHeader true (b!"multipart/mixed") (b!"----=_Part_Mixed_3")) (b!"----=_Part_Mixed_3")
    [ .leaf (b!"Content-Type: text/plain\r\n\r\nhello\r\n--not a delimiter\r\n-- \r\nbye"),
      .multi (Mime.containerHeader false (b!"multipart/mixed") (b!"----=_Part_Mixed_31")) (b!"----=_Part_Mixed_31")
        [ .leaf (b!"Content-Type: text/plain\r\n\r\na"), .leaf (b!"Content-Type: text/html\r\n\r\n<p>a</p>") ],
      .leaf (b!"Content-Type: application/octet-stream\r\nContent-Transfer-Encoding: base64\r\n\r\nAAAA\r\nBBBB") ]

/-- non-vacuity: the example meets the side conditions whatever follows its closing delimiter (inside a container nothing
follows, at the end of a message a line end does): its header is the writer's, its parts pass the writer's test, its children
are fresh -/
theorem exampleTree_written (e : Bytes) : Mime.freshAt Mime.readHeader e exampleTree :=
  ⟨Mime.readHeader_container true _ _ _ (b!"mixed") (by decide) (by decide) (by decide) (by decide) rfl,
    Mime.cleanAll_of_passes _ (by decide) _ e (by decide +kernel), by decide +kernel⟩

theorem exampleTree_fresh : Mime.fresh Mime.readHeader exampleTree = true := Mime.fresh_iff.2 (exampleTree_written [])
example : Mime.parse Mime.readHeader 3 (Mime.core exampleTree) = some exampleTree :=
  tree_as_written exampleTree 3 (by decide) exampleTree_fresh

/-- C02.6‴  the reader that the correspondence runs on every fetched text (`Mime.parseMessage`, driver op `mm.observe`: it
picks its own fuel from the length of the text) inverts the writer on every message that meets the decidable side conditions
`freshMessage`: a container nested to any depth, or a single entity. The theorem is about the function that is executed
against the implementation, not about a relative of it. -/
theorem fetched_text_reads_back (t : Mime.Tree) (h : Mime.freshMessage t = true) :
    Mime.parseMessage (Mime.message t) = some t :=
  Mime.parseMessage_written t h

/-- non-vacuity: the example message meets the side conditions -/
theorem exampleTree_freshMessage : Mime.freshMessage exampleTree = true :=
  Mime.freshMessage_iff.2 (exampleTree_written Mime.CRLF)

/-- C02.6 (full statement)  …without the side condition -/
def tree_as_written_full : Prop :=
  ∀ (t : Mime.Tree) (f : Nat), Mime.depth t ≤ f → Mime.parse Mime.readHeader f (Mime.core t) = some t

/-- a part whose text contains the delimiter of its own container -/
def spoiledTree : Mime.Tree :=
  .multi (Mime.containerHeader true (b!"multipart/mixed") (b!"----=_Part_Mixed_3")) (b!"----=_Part_Mixed_3")
    [ .leaf (b!"Content-Type: text/plain\r\n\r\nabove\r\n------=_Part_Mixed_3\r\nContent-Type: text/plain\r\n\r\nbelow") ]

/-- …refuted: the generated boundary is a function of the part's row id, not of the content; a part that contains such a
line is read back as two parts (the excluded point; probed on the real code by the C02 harness). -/
theorem tree_as_written_refuted : ¬ tree_as_written_full := fun h =>
  -- trees have no decidable equality: compare the number of parts read (two) with the number written (one)
  absurd (congrArg (·.map Mime.width) (h spoiledTree 2 (by decide))) (by decide +kernel)

/-! ## the writer after the repair (`Model/MimeWriter`): the boundary is chosen against the parts -/

/-- C02.7  the writer's own test (`boundaryOccursIn`: no line of a rendered part begins with `--boundary` followed by the end
of the line, white space or `--`) is at least as strict as the reader: a part that passes it is clean for the delimiter,
whatever follows. -/
theorem writer_test_implies_clean (b : Bytes) (hcr : 13 ∉ b) (core t : Bytes)
    (h : Mime.flagged (Mime.DD ++ b) true (core ++ Mime.CRLF) = false) : Mime.clean (Mime.delim b) core t = true :=
  Mime.clean_of_not_flagged b hcr core t true h

/-- C02.7'  hence, with the boundary the lengthening loop settles on, the parts of a container are read back exactly as they
were written **whatever octets they contain** — the side condition of C02.6 is discharged by the writer itself. -/
theorem repaired_writer_reads_back (base : Bytes) (ps : List Bytes) (e : Bytes) (fuel : Nat) (b : Bytes) (hne : ps ≠ [])
    (hb : Mime.chooseBoundary base ps fuel 0 = some b) (hcr : 13 ∉ b) :
    Mime.splitBody b (Mime.joinBody b ps e) = some ps :=
  Mime.repaired_writer_parts_read_back base ps e fuel b hb hcr

-- non-vacuity: the part that spoiled the tree above fails the test for the first candidate and passes it for the second
set_option maxRecDepth 100000 in
example :
    Mime.passes (b!"----=_Part_Mixed_3") [(b!"Content-Type: text/plain\r\n\r\nabove\r\n------=_Part_Mixed_3\r\nContent-Type: text/plain\r\n\r\nbelow")] = false ∧
    Mime.passes (b!"----=_Part_Mixed_3_0") [(b!"Content-Type: text/plain\r\n\r\nabove\r\n------=_Part_Mixed_3\r\nContent-Type: text/plain\r\n\r\nbelow")] = true := by
  decide +kernel

/-- C02.7''  **end to end**: the repaired writer renders the children, settles on a boundary none of them contains
(`assign`, the model of `reconstructPartDFS` with `boundaryOccursIn`), and writes; a reader takes the text apart into
exactly the tree it was written from — for every stored tree, any depth, any number of parts, **any octets in the leaves**.
Only the header reader remains a parameter (library code: it reads the container headers the writer produces and takes no
leaf for a container); the boundary bases contain no carriage return (they are `----=_Part_<Subtype>_<id>`). -/
theorem repaired_tree_as_written (K : Mime.HeaderReader) (fuel : Nat) (s : Mime.Src) (t : Mime.Tree) (f : Nat)
    (ha : Mime.assign fuel s = some t) (hb : Mime.basesOK s = true) (hr : Mime.headersRead K t = true)
    (hf : Mime.depth t ≤ f) : Mime.parse K f (Mime.core t) = some t :=
  Mime.parse_core K t f hf (Mime.assign_fresh K fuel s t ha hb hr)

/-- C02.8  the header-reading part of the side condition, for the concrete reader (`Mime.readHeader`: the first empty line
ends the header block; a `Content-Type: multipart/…` field with a `; boundary="…"` parameter makes a container): the container
header the writer produces is read back as written — header block, boundary, body — for every media type `multipart/<subtype>`
and boundary free of carriage returns, semicolons and double quotes (the writer's are), and **whatever the body**. What stays a
hypothesis of `repaired_tree_as_written` is only that no leaf's own header makes it a container. -/
theorem reader_reads_writer_headers (top : Bool) (ctype b body sub : Bytes) (hc : 13 ∉ ctype) (hs : 59 ∉ ctype) (hb : 13 ∉ b)
    (hq : 34 ∉ b) (hm : toLower ctype = (b!"multipart/") ++ sub) :
    Mime.readHeader (Mime.containerHeader top ctype b ++ body) = some (Mime.containerHeader top ctype b, b, body) :=
  Mime.readHeader_container top ctype b body sub hc hs hb hq hm

end Raven.Props.C02
