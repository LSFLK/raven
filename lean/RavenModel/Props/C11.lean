import RavenModel.Model.Names
/-! # C11 — mailbox names form an exact set; operations touch only what they name

`Store.names` is the abstraction map to the specification (a set of exact, case-sensitive octet strings under the
`/` hierarchy). Statements hold for **every** store and every argument; with `Props.C03.reach_inv` they hold in
particular in every reachable store. -/
namespace Raven.Props.C11
open Raven Raven.Mail Raven.GoStr

/-- C11.1a  CREATE succeeds exactly for a non-empty name that is not INBOX (any case), is neither `Roles` nor a name below it — the
part of the hierarchy SELECT reads as role mailboxes, where a personal mailbox could be filled but never opened (repair 817e6d4)
— and does not exist yet… -/
theorem create_ok_iff (s : Store) (arg : Bytes) (now : Nat) :
    (s.create arg now).2 = .ok ↔ createdName arg ≠ [] ∧ toUpper (createdName arg) ≠ inboxName ∧
      underRoles (createdName arg) = false ∧ createdName arg ∉ s.names :=
  Mail.create_ok_iff s arg now

/-- C11.1b  …and then adds exactly that name and its missing (non-empty) ancestors; a refused CREATE changes nothing. -/
theorem create_adds_exactly (s : Store) (arg : Bytes) (now : Nat) :
    ((s.create arg now).2 = .ok → ∀ m, m ∈ (s.create arg now).1.names ↔
        m ∈ s.names ∨ (m ∈ ancestors (createdName arg) ∧ m ≠ []) ∨ m = createdName arg) ∧
    ((s.create arg now).2 ≠ .ok → (s.create arg now).1 = s) :=
  ⟨fun h m => create_names s arg now h m, create_refused s arg now⟩

/-- C11.2  DELETE succeeds exactly for an existing name that is not INBOX, has no `name/` child (exact, case-sensitive
prefix) and is not one of the protected defaults; it removes that name and nothing else; refused, it changes nothing. -/
theorem delete_removes_only_it (s : Store) (arg : Bytes) :
    ((s.delete arg).2 = .ok ↔
      trimQuotes arg ≠ [] ∧ toUpper (trimQuotes arg) ≠ inboxName ∧ trimQuotes arg ∈ s.names ∧
      (∀ m ∈ s.names, isChildOf (trimQuotes arg) m = false) ∧
      (∀ p ∈ protectedNames, equalFold (trimQuotes arg) p = false)) ∧
    ((s.delete arg).2 = .ok → (s.delete arg).1.names = s.names.filter (· ≠ trimQuotes arg)) ∧
    ((s.delete arg).2 ≠ .ok → (s.delete arg).1 = s) :=
  ⟨delete_ok_iff s arg, (delete_names s arg).1, (delete_names s arg).2⟩

/-- C11.3  RENAME (not of INBOX) creates the missing ancestors of the new name, renames the mailbox and exactly the
other mailboxes below `old/` (exact, case-sensitive prefix), keeping every mailbox record (messages, UIDs, flags,
UIDVALIDITY) as it is, and touches nothing else. -/
theorem rename_moves_exactly (s : Store) (oa na : Bytes) (now : Nat)
    (hinb : toUpper (trimQuotes oa) ≠ inboxName) (hok : (s.rename oa na now).2 = .ok) :
    (s.rename oa na now).1.boxes =
      (s.newBoxes (ancestors (trimQuotes na)) now).boxes.map
        (fun b => { b with name := renamedName (trimQuotes oa) (trimQuotes na) b.name }) :=
  rename_boxes s oa na now hinb hok

/-- renaming a mailbox below itself moves it (and its children) there: `RENAME a a/b` yields `a/b`. -/
theorem rename_into_own_subtree :
    ((Store.init 1).create (b!"a") 2).1.rename (b!"a") (b!"a/b") 3 |>.1.names
      = [(b!"INBOX"), (b!"Sent"), (b!"Drafts"), (b!"Trash"), (b!"Spam"), (b!"a/b")] := by decide +kernel

/-- a name with SQL LIKE wildcards renames only itself and its true children (the pinned tree also moved `axb/c`). -/
theorem rename_like_safe :
    (((Store.init 1).create (b!"a_b") 2).1.create (b!"axb/c") 2).1.rename (b!"a_b") (b!"zz") 3 |>.1.names
      = [(b!"INBOX"), (b!"Sent"), (b!"Drafts"), (b!"Trash"), (b!"Spam"), (b!"zz"), (b!"axb"), (b!"axb/c")] := by decide +kernel

/-- C11.4  `LIST "" "*"` shows every mailbox: the star pattern matches every name, so `FilterMailboxes` keeps the whole
set (C18.2 says it adds nothing but INBOX). -/
theorem list_star_is_set (s : Store) : ∀ m ∈ s.names, m ∈ ListMatch.filter s.names [] [b_star] :=
  fun m hm => (ListMatch.mem_filter ..).mpr (.inl ⟨hm, (ListMatch.matchWildcard_iff m [b_star]).mp (star_matches_all m)⟩)

/-- C11.5  the subscription list changes only through SUBSCRIBE and UNSUBSCRIBE: every other operation of the machine
leaves it exactly as it was. -/
theorem subs_only_by_subscribe (s : Store) (op : Op) (h : op.isSubOp = false) : (step s op).subs = s.subs :=
  subs_step s op h

/-- C11.5'  an empty list is presented as the default mailboxes, a non-empty one as it is. -/
theorem presented_subs (s : Store) : s.shownSubs = if s.subs.isEmpty then defaultNames else s.subs := rfl

-- non-vacuity
example : ((Store.init 1).create (b!"x/y/") 2).1.names =
    [(b!"INBOX"), (b!"Sent"), (b!"Drafts"), (b!"Trash"), (b!"Spam"), (b!"x"), (b!"x/y")] := by decide +kernel


/-- C11.1c  RENAME to `Roles` or to a name below it is refused and changes nothing (a mailbox renamed to `Roles` would take its
children below it). -/
theorem rename_refuses_reserved (s : Store) (oa na : Bytes) (now : Nat) (hne : ¬ (trimQuotes oa = [] ∨ trimQuotes na = []))
    (hr : underRoles (trimSuffix (trimQuotes na) slash) = true) : s.rename oa na now = (s, .no) :=
  Mail.rename_refuses_roles s oa na now hne hr

-- non-vacuity: the names the harness found, and the folder itself
example : underRoles (b!"Roles/x@example.com/foo") = true ∧ underRoles (b!"Roles") = true ∧ underRoles (b!"roles/z") = false ∧
    underRoles (b!"Rolesx") = false := by decide +kernel


end Raven.Props.C11
