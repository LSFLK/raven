import RavenModel.Model.Blob
import RavenModel.Gen.Facts
import RavenModel.Model.Plan
/-! # C15 — out-of-line blob storage and de-duplication are invisible to readers -/
namespace Raven.Props.C15
open Raven Raven.Blob

/-- C15.1  for every sequence of stored parts, a part reads back the text of the first part ever stored under its key… -/
theorem reads_first_writer (ps : List Part) (k : Nat) : read (storeAll ps) k = firstText ps k := read_storeAll ps k

/-- C15.1'  …hence its own text whenever equal keys (equal decoded content) mean equal encoded text. -/
theorem no_fault_readback_partial (ps : List Part)
    (hno : ∀ p ∈ ps, ∀ q ∈ ps, p.key = q.key → p.text = q.text) (p : Part) (hp : p ∈ ps) :
    read (storeAll ps) p.key = some p.text := readback_own ps hno p hp

/-- the unconditional statement is false (finding C15-F1, pinned by six unit tests that require cross-encoding de-duplication) -/
theorem cross_encoding_refuted : read (storeAll [⟨7, 100⟩, ⟨7, 200⟩]) 7 = some 100 := by decide

/-- C15.2  identical content is stored once with a reference count equal to its users: after any sequence of stores the count
of a key is the number of parts stored under it. -/
theorem refcount_exact (ps : List Part) (k : Nat) : refs (storeAll ps) k = (ps.filter (fun p => p.key == k)).length :=
  refs_storeAll ps k

/-- placement rule: a part goes out of line iff it is larger than the threshold or carries a file name -/
def outOfLine (threshold size : Nat) (hasName : Bool) : Bool := size > threshold || hasName

/-- where the content of a part ends up -/
inductive Place where | s3 | localBlob | inline
deriving DecidableEq, Repr
/-- storing with fallback: S3, else the local blob table, else inline. There is no outcome without a place: a store fault moves
the content to another place, it never yields a link to missing content -/
def place (s3Enabled s3Ok localOk : Bool) : Place :=
  if s3Enabled && s3Ok then .s3 else if localOk then .localBlob else .inline

/-- C15.3  a fault while storing falls back to another place: every fault combination has a placement, and a placement in S3
or in the blob table is chosen only when that backend accepted the content. -/
theorem store_fault_safe (s3Enabled s3Ok localOk : Bool) :
    (place s3Enabled s3Ok localOk = .s3 → s3Enabled = true ∧ s3Ok = true) ∧
    (place s3Enabled s3Ok localOk = .localBlob → localOk = true) := by
  revert s3Enabled s3Ok localOk; decide

/-- what a reader gets for a part: its stored text, a reported error, or — silently — nothing -/
inductive ReadOut where | content | error | empty
deriving DecidableEq, Repr

/-- reading a part (`parser.LoadBlobContent`, used by the reconstruction of the whole message and by section fetches alike):
inline text and the blob table are always at hand; an object is at hand when the reader has the object store and the store
hands it out; otherwise the read is an error, which FETCH reports (tagged NO, nothing sent for the message). -/
def readPart (pl : Place) (readerS3 objOk : Bool) : ReadOut :=
  match pl with
  | .inline => .content
  | .localBlob => .content
  | .s3 => if readerS3 && objOk then .content else .error

/-- the three read sites before repair: an object that could not be read was skipped -/
def readPartOld (pl : Place) (readerS3 objOk : Bool) : ReadOut :=
  match pl with
  | .inline => .content
  | .localBlob => .content
  | .s3 => if readerS3 && objOk then .content else .empty

/-- C15.4  a failure while reading is reported as an error, never as silently empty content: for every placement, reader
configuration and object-store answer the outcome is the content or an error, and it is an error exactly when the part lives
in the object store and the reader has no object store or the store does not hand the object out. -/
theorem read_fault_reported (pl : Place) (readerS3 objOk : Bool) :
    readPart pl readerS3 objOk ≠ .empty ∧
    (readPart pl readerS3 objOk = .error ↔ (pl = .s3 ∧ (readerS3 = false ∨ objOk = false))) := by
  cases pl <;> revert readerS3 objOk <;> decide

/-- …which was false before the repair (finding C15-F2 until then): a missing object, and an object store the reader does not
have, both read as nothing. -/
theorem old_read_silently_empty : readPartOld .s3 true false = .empty ∧ readPartOld .s3 false true = .empty := by decide

/-- C15.4'  the code has one place that reads from the object store, and it hands the error on (regenerated from /repo on
every run: every call of `Retrieve`, and whether it is followed by `if err != nil { return …, err }`) — a new read site, or
one that looks at the error only to skip the content, breaks this. -/
theorem read_errors_handed_on : Gen.retrieveSites = [((b!"parser.LoadBlobContent"), true)] := by decide +kernel

/-- C15.5  content that is shared is never taken away under a reader: removing messages — EXPUNGE, UID EXPUNGE, CLOSE, DELETE
of a mailbox — touches no row of the shared blob table (the message rows that reference the content stay, and so does the
content; `refcount_exact` counts stores, nothing decrements). A removal that released blob references by the wrong key would
empty *another* store's messages. Plans regenerated from /repo on every run. -/
theorem plan_removal_keeps_blobs :
    [(b!"message.HandleExpunge"), (b!"uid.handleUIDExpunge"), (b!"selection.HandleClose"), (b!"mailbox.HandleDelete")].all (fun f =>
      !(Plan.trace f).isEmpty && Plan.free (b!"blobs") (Plan.trace f) && Plan.free (b!"Blob") (Plan.trace f)) = true := by
  decide +kernel

/-- C15.6  a row id is taken only from an insert that inserts: every `LastInsertId()` in the database layer follows a plain
`INSERT` — not `INSERT OR IGNORE`, not `… ON CONFLICT …`, after which SQLite's last row id is that of some *earlier* insert on
the connection (another user's blob, another user's account). The de-duplicating paths look the existing row up instead.
Regenerated from /repo on every run; ten sites (blobs, messages, parts, mailboxes, users, domains, role mailboxes). -/
theorem ids_from_plain_inserts :
    Gen.insertIds.all (fun r => r.2 = (b!"plain")) = true ∧ Gen.insertIds.length = 10 ∧
    Gen.insertIds.any (fun r => r.1 = (b!"db.StoreBlobWithEncoding")) = true ∧
    Gen.insertIds.any (fun r => r.1 = (b!"db.GetOrCreateUserInitialized")) = true := by decide +kernel

end Raven.Props.C15
