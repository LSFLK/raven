import RavenModel.Model.Plan
import RavenModel.Gen.Facts
import RavenModel.Model.Interleave
import RavenModel.Props.C07
/-! # C08 — concurrent sessions never lose, duplicate or mix up messages -/
namespace Raven.Props.C08
open Raven.Durable Raven.Interleave

/-- C08.1–3  for every number of sessions and **every schedule** of their statements (and crashes): UIDs — linked or allocated —
are pairwise distinct and below UIDNEXT, every acknowledged addition is listed exactly once with its own complete message, and
no session is refused because of another. This is `Durable.inv_run`, read for schedules. It rests on the UID being allocated
by one atomic statement. -/
theorem any_schedule (sched : List Ev) : Inv (sched.foldl step init) := C07.crash_anywhere sched

theorem uids_distinct (sched : List Ev) : ((sched.foldl step init).links.map (·.1)).Nodup :=
  (C07.uid_rules sched).1

theorem ack_exactly_once (sched : List Ev) :
    (∀ c ∈ (sched.foldl step init).acked, ∃ u, (u, c) ∈ (sched.foldl step init).links) ∧
    ((sched.foldl step init).links.map (·.2)).Nodup :=
  ⟨C07.ack_durable sched, (inv_run sched).msgOnce⟩

theorem own_content (sched : List Ev) : ∀ l ∈ (sched.foldl step init).links, complete (sched.foldl step init) l.2 :=
  C07.listed_is_complete sched

/-- an addition that succeeds on its own succeeds in every schedule -/
theorem no_spurious_failure (sched : List Ev) : (sched.foldl step init).failed = [] := (inv_run sched).noFailure

/-- why the allocation must be one statement: with `SELECT uid_next` and `UPDATE … uid_next + 1` as two statements, the
schedule read₁ read₂ bump₁ bump₂ insert₁ insert₂ makes the second writer's INSERT hit UNIQUE(mailbox_id, uid) — a permanent
failure for a delivery that would succeed on its own -/
theorem two_statement_allocation_refuted :
    ([Ev2.read 1, .read 2, .bump 1, .bump 2, .insert 1, .insert 2].foldl step2 ⟨1, [], [], []⟩).failed = [2] := by decide +kernel

/-- C08.4 partial  a flag addition that is one atomic statement is in effect when it is acknowledged, whatever ran before… -/
theorem atomic_store_keeps_flags (s : StF) (w f : Nat) : f ∈ (stepFAtomic s w f).flags ∧ ∀ g ∈ s.flags, g ∈ (stepFAtomic s w f).flags :=
  ⟨List.mem_eraseDups.mpr (List.mem_cons_self ..), fun _ hg => List.mem_eraseDups.mpr (List.mem_cons_of_mem _ hg)⟩

/-- …whereas an unconditional read – compute – write back loses an acknowledged update: both sessions are told OK, one
keyword is gone (what STORE did before its repair) -/
theorem read_modify_write_loses_update :
    let s := [EvF.read 1, .read 2, .write 1 10, .write 2 20].foldl stepF ⟨[], [], []⟩
    s.acked = [(2, 20), (1, 10)] ∧ s.flags = [20] := by decide +kernel

/-- C08.4  the flag update as coded (conditional write, recomputed when another session got in between): for every number of
sessions and every schedule of their reads and conditional writes, every flag addition that was answered OK is on the message -/
theorem conditional_store_keeps_acked (sched : List EvC) :
    ∀ a ∈ (sched.foldl stepC ⟨[], [], []⟩).acked, a.2 ∈ (sched.foldl stepC ⟨[], [], []⟩).flags :=
  runC_acked sched ⟨[], [], []⟩ (by intro a ha; simp at ha)

/-- the schedule that lost an update before: the second writer is not answered OK until it has re-read -/
example : ([EvC.read 1, .read 2, .cas 1 10, .cas 2 20, .cas 2 20].foldl stepC ⟨[], [], []⟩).flags = [20, 10] ∧
    ([EvC.read 1, .read 2, .cas 1 10, .cas 2 20].foldl stepC ⟨[], [], []⟩).acked = [(1, 10)] := by decide +kernel

/-- C08.5  the double-checked handle cache never installs two handles for one store, for any sequence of requests -/
theorem cache_single_handle (ids : List Nat) : ((getAll ⟨[], 0⟩ ids).handles.map (·.1)).Nodup :=
  getAll_nodup ids ⟨[], 0⟩ .nil

/-- non-vacuity: three sessions interleaved -/
example : (([Ev.start 1, .start 2, .adv 1, .adv 2, .start 3, .adv 2, .adv 1, .adv 3, .adv 3, .adv 2, .adv 1, .adv 3] : List Ev).foldl step init).links.length = 3 := by decide +kernel

/-! ## the statements behind the conditional flag write and COPY (plan regenerated from /repo on every run) -/

/-- C08.11  `ApplyFlagChange` is the compare-and-swap loop the model's `EvC.cas` step (`Interleave.stepC`) describes: **inside** the retry loop the new
flag list is computed from the flags last read, written under the condition that they are still the stored ones, and re-read
when they are not — a value computed once outside the loop would write a stale list over another session's change. -/
theorem plan_flag_change_recomputes :
    Raven.Plan.trace (b!"message.ApplyFlagChange") =
      [(b!"loop {"), (b!"call message.CalculateNewFlags"), (b!"sql UPDATE message_mailbox"), (b!"sql SELECT message_mailbox"), (b!"}")] := by
  decide +kernel

/-- C08.12  COPY and UID COPY read the destination's UID counter, insert the links and write the counter back inside one
transaction (a counter read before `BEGIN` can be stale by the time the links are written). -/
theorem plan_copy_in_one_transaction :
    [(b!"message.HandleCopy"), (b!"uid.handleUIDCopy")].all (fun op =>
      let tx := Raven.Plan.inTx (Raven.Plan.trace op)
      Raven.Plan.before (Raven.Plan.idx (b!"sql SELECT mailboxes") tx) (Raven.Plan.idx (b!"sql INSERT message_mailbox") tx) &&
      Raven.Plan.before (Raven.Plan.idx (b!"sql INSERT message_mailbox") tx) (Raven.Plan.idx (b!"sql UPDATE mailboxes") tx)) = true := by
  decide +kernel

/-- C08.13  opening a store — a process's first contact with it: after a crash, after a restart, or while another process is
in the middle of an operation on it — creates what is missing and **deletes and rewrites nothing**; whether the store is
complete is decided by the marker (`userDBInitialized`) before anything is created. -/
theorem plan_open_deletes_nothing :
    [(b!"db.DBManager.GetUserDB"), (b!"db.DBManager.GetRoleMailboxDB"), (b!"db.DBManager.initUserDB")].all (fun f =>
      let t := Raven.Plan.trace f
      !t.isEmpty && Raven.Plan.free (b!"sql DELETE") t && Raven.Plan.free (b!"sql UPDATE") t && Raven.Plan.free (b!"sql DROP") t) = true ∧
    [(b!"db.DBManager.GetUserDB"), (b!"db.DBManager.GetRoleMailboxDB")].all (fun f =>
      Raven.Plan.before (Raven.Plan.idx (b!"call db.userDBInitialized") (Raven.Plan.trace f))
        (Raven.Plan.idx (b!"call db.DBManager.initUserDB") (Raven.Plan.trace f))) = true :=
  C07.plan_open_deletes_nothing

/-! ## moving a message between mailboxes (the Junk / NonJunk keywords) from several sessions at once -/

/-- one link in the source mailbox, `dst` links in the destination -/
structure MoveSt where
  src : Bool
  dst : Nat
deriving DecidableEq, Repr

/-- a session that found the message in the source mailbox and now runs its move transaction (the transactions of one store
are serialised): the repaired one files the message only if it has just removed it from the source, the old one filed it
whatever its DELETE removed -/
inductive MoveEv where | checked | unchecked
deriving DecidableEq, Repr

def moveStep (s : MoveSt) : MoveEv → MoveSt
  | .checked => if s.src then { src := false, dst := s.dst + 1 } else s
  | .unchecked => { src := false, dst := s.dst + 1 }

def moveCopies (s : MoveSt) : Nat := (if s.src then 1 else 0) + s.dst

theorem moveCopies_checked : ∀ s : MoveSt, moveCopies (moveStep s .checked) = moveCopies s
  | ⟨false, _⟩ => rfl
  | ⟨true, dst⟩ => (Nat.zero_add _).trans (Nat.add_comm dst 1)

/-- C08 (moving a message)  however many sessions move one message at once and in whatever order their transactions run, it is there exactly
once — in the source or in the destination — when each move checks that it removed what it files. -/
theorem concurrent_moves_keep_one_copy (es : List MoveEv) (h : ∀ e ∈ es, e = .checked) :
    moveCopies (es.foldl moveStep { src := true, dst := 0 }) = 1 := by
  suffices ∀ s, moveCopies (es.foldl moveStep s) = moveCopies s from this _
  induction es with
  | nil => exact fun _ => rfl
  | cons e es ih =>
    intro s
    obtain rfl := h e (List.mem_cons_self ..)
    rw [List.foldl_cons, ih fun x hx => h x (List.mem_cons_of_mem _ hx), moveCopies_checked]

/-- …and twice after two moves that do not check (the defect repaired in aa5a0f9: two sessions adding Junk to one message) -/
theorem unchecked_moves_duplicate :
    moveCopies ([MoveEv.unchecked, MoveEv.unchecked].foldl moveStep { src := true, dst := 0 }) = 2 := by decide +kernel

/-- the code is the checked machine (regenerated from /repo on every run): the move consults `RowsAffected` of its DELETE -/
theorem move_checks_what_it_removed : Raven.Gen.moveChecks = [((b!"message.MoveMessageToMailbox"), true)] := by decide +kernel

end Raven.Props.C08
