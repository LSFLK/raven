import RavenModel.Model.SeqSet
import RavenModel.Model.SessionView
import RavenModel.Model.Notify
import RavenModel.Model.Plan
import RavenModel.Model.Expunge
import RavenModel.Model.MailInv
/-! # C09 — sequence numbers, counts and expunge notices describe the same mailbox -/
namespace Raven.Props.C09
open Raven Raven.Mail Raven.SeqSet

/-- C09.1a  `ParseSequenceSetWithDB` (FETCH, STORE, COPY): every well-formed sequence set — `n`, `n:m`, `n:*`, `*`,
comma lists, reversed ranges — addresses exactly the message numbers it denotes, cut to `1..N`. -/
theorem seq_sets_denote (s : List Item) (hne : s ≠ []) (hok : ∀ i ∈ s, i.ok) (N n : Nat) (hN : N < 9223372036854775808) :
    n ∈ parseSeq (printSet s) N ↔ denotes s N n ∧ 1 ≤ n ∧ n ≤ N :=
  parseSeq_denotes s hne hok N n hN

/-- C09.1b  `ParseUIDSequenceSetWithDB` (UID FETCH/STORE/COPY/EXPUNGE): a UID set addresses exactly the existing UIDs
it denotes, `*` standing for the largest UID in use. -/
theorem uid_sets_denote (s : List Item) (hne : s ≠ []) (hok : ∀ i ∈ s, i.ok) (uids : List Nat) (n : Nat) :
    n ∈ parseUid (printSet s) uids ↔ n ∈ uids ∧ denotes s (maxOf uids) n ∧ maxOf uids ≠ 0 :=
  parseUid_denotes s hne hok uids n

/-- C09.2  in every reachable store the three ways the server ranks a message coincide: its index in ascending UID
order (`OFFSET`, `ROW_NUMBER`) and `COUNT(uid <= its uid)`; hence EXISTS, STATUS MESSAGES, FETCH 1:* and UID FETCH 1:*
number one and the same list. -/
theorem ranks_agree (now : Nat) (ops : List Op) :
    ∀ b ∈ (run (Store.init now) ops).boxes, ∀ (i : Nat) (l : Link), b.links[i]? = some l →
      rankOf b.links l.uid = i + 1 := by
  intro b hb i l hl
  have h := count_le_eq_index _ ((inv_run _ ops (inv_init now)).box b hb).asc i l.uid (by simp [List.getElem?_map, hl])
  rw [List.filter_map, List.length_map] at h
  exact h

/-- C09.3  EXPUNGE / CLOSE / UID EXPUNGE remove exactly the addressed messages whose flag *set* contains `\Deleted`, in the
named mailbox only. -/
theorem expunge_exact (s : Store) (box : Bytes) (b : Mbox) (h : s.find box = some b) :
    (s.expunge box).1 = s.modify box (fun b => { b with links := b.links.filter (fun l => !isDeleted l) }) ∧
    ∀ uids, (s.uidExpunge box uids).1 =
      s.modify box (fun b => { b with links := b.links.filter (fun l => !(isDeleted l && uids.contains l.uid)) }) := by
  simp [Store.expunge, Store.uidExpunge, Store.expungeBy, h]

/-- C09.4  a client that applies the untagged EXPUNGE responses in order to its previous view obtains exactly the
server's new numbering — for every mailbox content and every choice of doomed messages. -/
theorem expunge_replay (doomed : Link → Bool) (links : List Link) :
    replay links (notices doomed 1 0 links) = links.filter (fun l => !doomed l) :=
  Mail.expunge_replay doomed links

/-- C09.4'  the notices an EXPUNGE emits are those of C09.4 for the links it removes. -/
theorem expunge_notices (s : Store) (box : Bytes) (b : Mbox) (h : s.find box = some b) :
    (s.expunge box).2 = notices isDeleted 1 0 b.links := by
  simp [Store.expunge, Store.expungeBy, h]

-- non-vacuity
example : parseSeq (b!"3:2,1,9") 4 = [2, 3, 1] := by decide +kernel
example : parseUid (b!"3:*") [1, 3, 7] = [3, 7] := by decide +kernel
example : notices (fun l => l.uid % 2 = 0) 1 0 [⟨1, 0, []⟩, ⟨2, 0, []⟩, ⟨4, 0, []⟩, ⟨5, 0, []⟩] = [2, 2] := by decide +kernel

/-! ## the counting and expunging statements (plan regenerated from /repo on every run) -/

/-- C09.7  EXISTS / STATUS MESSAGES count link rows (no `DISTINCT`: two copies of one message in a mailbox are two
messages), and EXPUNGE / CLOSE pick their victims by the delimited flag test, never by an open substring of the flag list. -/
theorem plan_counts_rows :
    Plan.free (b!"DISTINCT") (Plan.trace (b!"db.GetMessageCountPerUser")) = true ∧
    Plan.sqlOnly (Plan.trace (b!"db.GetMessageCountPerUser")) = [(b!"sql SELECT message_mailbox")] ∧
    [(b!"message.HandleExpunge"), (b!"selection.HandleClose"), (b!"db.GetUnseenCountPerUser")].all (fun f =>
      (Plan.trace f).all (fun e => !GoStr.containsSub e (b!"LIKE(") || GoStr.containsSub e (b!"LIKE(delimited)"))) = true := by
  decide +kernel

/-- C09.8  the notices of the session's own EXPUNGE / UID EXPUNGE can be applied by the client — every number lies within
what it has been told of by then — and applying them leaves it with exactly the mailbox as it is: for every mailbox, every
set of arrivals the session had not asked about yet, every choice of doomed messages (since repair 525a68f the pending
`* n EXISTS` goes out first). -/
theorem expunge_notices_applicable (s : SessionView.St) (d : Mail.Link → Bool) :
    SessionView.applicable s.srv.length (SessionView.expungeNotices s d) = true ∧
    (SessionView.step s (.expunge d)).view = (SessionView.step s (.expunge d)).srv :=
  SessionView.expunge_view s d

/-- C09.8'  for every interleaving of arrivals, own expunges and polls, what the session has been told of is the front of the
mailbox (what arrived since is behind it, nothing is missing or out of place in front). -/
theorem session_view_is_front (xs : List Mail.Link) (evs : List SessionView.Ev) :
    SessionView.Inv (SessionView.run ⟨xs, xs⟩ evs) :=
  SessionView.inv_run _ evs (SessionView.inv_select xs)

/-- C09.8''  before the repair the notices were numbered in a mailbox the client had not been told of: refuted by one known
message, one arrival flagged \Deleted by another session, and an EXPUNGE (`* 2 EXPUNGE` for a client that knows of one). -/
theorem old_expunge_notices_refuted : ¬ SessionView.notices_applicable_old := SessionView.notices_applicable_old_refuted

/-- …and held only when nothing that had arrived unannounced was among the doomed -/
theorem old_expunge_notices_partial (s : SessionView.St) (d : Mail.Link → Bool) (extra : List Mail.Link)
    (hs : s.srv = s.view ++ extra) (hx : ∀ l ∈ extra, d l = false) :
    SessionView.applicable s.view.length (SessionView.expungeNotices s d) = true :=
  (SessionView.expunge_known_partial s d extra hs hx).1

/-- C09.9  whatever arrived and whenever — before the session idled, while it idled, after DONE — and however often it
idled, polled or was polled in between: after a NOOP the session has been told of exactly the messages there are. -/
theorem noop_after_anything_tells_all (n : Nat) (es : List Notify.Ev) (h : ∀ e ∈ es, Notify.current e = true) :
    (Notify.run (Notify.select n) (es ++ [.noop])).told = (Notify.run (Notify.select n) (es ++ [.noop])).srv := by
  simp only [Notify.run, List.foldl_append, List.foldl_cons, List.foldl_nil]
  exact Notify.noop_tells_all _ (Notify.inv_run es _ (Notify.inv_select n) h)

/-- …which is false of a server whose IDLE stores its own counter in the session when it ends: a message that arrived
between the last update and the IDLE is never announced (select 0; arrive; IDLE; DONE; NOOP: told 0 of 1). -/
theorem idle_writeback_refuted :
    (Notify.run (Notify.select 0) [.arrive, .idleBegin, .idleEndWriteBack, .noop]).told ≠
    (Notify.run (Notify.select 0) [.arrive, .idleBegin, .idleEndWriteBack, .noop]).srv := by decide +kernel

/-- non-vacuity: a history with arrivals on both sides of an IDLE -/
example : (Notify.run (Notify.select 2) [.arrive, .idleBegin, .arrive, .idlePoll, .idleEnd, .arrive, .noop]).told = 5 := by decide +kernel

/-- C09.9'  the code is the current machine, not the refuted one (plan regenerated from /repo on every run): `HandleIdle`
assigns nothing in the session; `HandleNoop` and the command loop's `announceNewMessages` store the count they have just
announced, after announcing it. -/
theorem plan_idle_keeps_session_counters :
    Plan.free (b!"set state.") (Plan.trace (b!"extension.HandleIdle")) = true ∧
    (Plan.trace (b!"extension.HandleIdle")).contains (b!"reply untagged") = true ∧
    Plan.before (Plan.lastIdx (· = (b!"reply untagged")) (Plan.trace (b!"extension.HandleNoop")))
      (Plan.idx (b!"set state.LastMessageCount = currentCount") (Plan.trace (b!"extension.HandleNoop"))) = true ∧
    Plan.before (Plan.idx (b!"reply untagged") (Plan.trace (b!"server.announceNewMessages")))
      (Plan.idx (b!"set state.LastMessageCount = count") (Plan.trace (b!"server.announceNewMessages"))) = true := by
  decide +kernel

end Raven.Props.C09
