import RavenModel.Model.Lsub
import RavenModel.Model.ListMatch
/-! # C18 — LIST/LSUB wildcard matching follows RFC 3501 and stays polynomial -/
namespace Raven.Props.C18
open Raven Wild ListMatch

/-- C18.1  the matcher accepts exactly the RFC 3501 relation (`*` any string, `%` any string without
the delimiter, every other octet itself), INBOX case-insensitively — all patterns, all names. -/
theorem match_iff_rfc (name pattern : Bytes) :
    matchWildcard name pattern = true ↔ Matches (normInbox pattern) (normInbox name) :=
  matchWildcard_iff name pattern

/-- C18.1'  the table-driven matcher and the backtracking recursion it replaced agree on every input
(the repair changed cost, not meaning). -/
theorem table_eq_backtracking (p t : Bytes) : dpMatch p t = wmatch p t := by
  rw [dpMatch_eq_wm, wm_eq_wmatch]

/-- C18.2  `FilterMailboxes` returns exactly the listed names matching reference+pattern, plus INBOX when
the upper-cased canonical pattern matches it and no listed match is INBOX already. -/
theorem filter_exact (mbs : List Bytes) (ref pat n : Bytes) :
    n ∈ filter mbs ref pat ↔
      (n ∈ mbs ∧ MatchesCI (canonical ref pat) n) ∨
      (n = inbox ∧ MatchesCI (toUpper (canonical ref pat)) inbox ∧
        ∀ m ∈ mbs, MatchesCI (canonical ref pat) m → toUpper m ≠ inbox) :=
  mem_filter mbs ref pat n

/-- C18.3  cost: the matcher writes exactly `(|pattern|+1)·(|name|+1)` table cells — polynomial. -/
theorem cost_polynomial (p t : Bytes) : cellsWritten p t = (p.length + 1) * (t.length + 1) :=
  cellsWritten_eq p t

/-- the result is read off the table whose cells are counted in `cost_polynomial` -/
theorem result_from_table (p t : Bytes) : dpMatch p t = hd ((dpRows p t).headD []) := by
  rw [dpRows_head]; rfl

-- non-vacuity: concrete instances of the relation, decided through the theorem
example : Matches (b!"a/%/*x") (b!"a/bc/d/ex") :=
  (dpMatch_iff _ _).mp (by decide +kernel)
example : ¬ Matches (b!"a/%") (b!"a/b/c") :=
  fun h => absurd ((dpMatch_iff _ _).mpr h) (by decide +kernel)
example : matchWildcard (b!"inbox") (b!"InBoX") = true := by decide +kernel

/-- C18.6  the names `HandleLsub` announces as `\Noselect` are exactly the implied parents of RFC 3501 6.3.9: for a pattern
with `%`, the names that are not subscribed themselves, match reference + pattern, and are a proper ancestor (a leading run
of hierarchy components) of a subscribed name — at whatever depth below whatever subscribed ancestor. -/
theorem lsub_implied_exact (subs : List Bytes) (ref pat p : Bytes) :
    p ∈ Lsub.implied subs ref pat ↔
      pat.contains Lsub.pct = true ∧ p ∉ subs ∧ MatchesCI (canonical ref pat) p ∧ ∃ m ∈ subs, Lsub.ProperAncestor p m :=
  Lsub.mem_implied subs ref pat p

-- non-vacuity: `w` and `w/p/q/r` subscribed, the two levels between them not: `w/%` shows `w/p`, `w/%/%` shows `w/p/q`
example : Lsub.implied [(b!"w"), (b!"w/p/q/r")] [] (b!"w/%") = [(b!"w/p")] ∧
    Lsub.implied [(b!"w"), (b!"w/p/q/r")] [] (b!"w/%/%") = [(b!"w/p/q")] ∧
    Lsub.implied [(b!"w"), (b!"w/p/q/r")] (b!"w/p/") (b!"%") = [(b!"w/p/q")] ∧
    Lsub.implied [(b!"w"), (b!"w/p/q/r")] [] (b!"*") = [] := by decide +kernel

end Raven.Props.C18
