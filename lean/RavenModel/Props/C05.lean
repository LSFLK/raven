import RavenModel.Model.MailDesc
import RavenModel.Model.Plan
import RavenModel.Model.World
/-! # C05 — a session reaches only its own stores and only the mailbox it selected -/
namespace Raven.Props.C05
open Raven Raven.Gen Raven.Proto Raven.World

/-- table fact (regenerated from /repo): every selected-state command — FETCH, STORE, COPY, SEARCH, EXPUNGE, CLOSE, CHECK, IDLE,
the UID forms — and NOOP's polling obtains its database through the selected-store accessor, for reads and writes alike. -/
theorem table_selected_store_only : commands.all SelectedStoreOnly = true := by decide +kernel

/-- table fact: no handler opens the store of a user id other than the session's own. -/
theorem table_no_foreign_store : commands.all NoForeignStore = true := by decide +kernel

/-- C05.1  in every protocol state, every database a selected-state command can reach is the store of the selection (or the
shared blob store, which holds no mailbox). -/
theorem selected_state_uses_selected_store (s : State) (sess : Sess) (c : Command) (hc : c ∈ commands)
    (hsel : (isSelectedStateCmd c || c.name = b!"NOOP") = true) :
    ∀ a ∈ reach s c, ownerOf sess a.kind = sess.sel.map (·.1) ∨ ownerOf sess a.kind = none := by
  intro a ha
  rcases reach_selected_only s c hsel (List.all_eq_true.mp table_selected_store_only c hc) a ha with h | h
  · left; rw [h]; rfl
  · right; rw [h]; rfl

/-- C05.1'  an accessor of kind `user` (`GetUserDB(state.UserID)`) opens the session user's own store, whatever the command and
the state; that no handler opens another user's store is `table_no_foreign_store` (LIST/LSUB/SELECT additionally open role
stores, after the assignment check of C05.2). -/
theorem other_commands_use_own_store (s : State) (sess : Sess) (c : Command) (hc : c ∈ commands) :
    ∀ a ∈ reach s c, a.kind = .user → ownerOf sess a.kind = some (.user sess.uid) := by
  intro a _ h; rw [h]; rfl

/-- C05.2  a selection designates the user's own store or a role mailbox that was assigned to the user at that moment —
for every path (own, foreign, non-existent, malformed `Roles/…`). -/
theorem selection_authorised (dir : Dir) (uid : Nat) (path : Bytes) (o : Owner) (m : Bytes)
    (h : selectTarget dir uid path = some (o, m)) :
    o = .user uid ∨ ∃ r, o = .role r ∧ dir.assigned uid r = true :=
  select_authorised dir uid path o m h

/-- C05.3 (frame)  an operation applied to the store of owner `o` leaves the store of every other owner exactly as it was:
no command sequence of one user changes another user's store, or a role store it did not select. -/
theorem frame (w : World) (o o' : Owner) (f : Mail.Store → Mail.Store) (h : o' ≠ o) :
    (w.update o f).store o' = w.store o' :=
  update_frame w o o' f h

theorem frame_seq (w : World) (o o' : Owner) (fs : List (Mail.Store → Mail.Store)) (h : o' ≠ o) :
    (fs.foldl (fun w f => w.update o f) w).store o' = w.store o' := by
  induction fs generalizing w with
  | nil => rfl
  | cons f rest ih => simp only [List.foldl_cons]; rw [ih, update_frame w o o' f h]

/-- C05.4  whatever happens on a connection — logins accepted and refused, second logins, selections of every path, CLOSE,
assignments and un-assignments in between — the mailbox that selected-state commands act on was selected by the identity
the connection holds: its own store, or a role store assigned to that identity at the moment of the SELECT. -/
theorem selection_belongs_to_identity (d : Dir) (es : List CEv) : ConnOK (crun true (Conn.fresh d) es) :=
  crun_ok _ es (by simp [ConnOK, Conn.fresh])

/-- …which fails when a second LOGIN is accepted and keeps the selection (the code before the repair): user 1, assigned to
role 7, selects it; user 2, assigned to nothing, logs in on the same connection and holds the role mailbox. -/
def secondLoginWitness : Conn :=
  crun false (Conn.fresh ⟨fun _ => some 7, fun u r => u = 1 && r = 7⟩)
    [.login 1 true, .select (b!"Roles/s@x/INBOX"), .login 2 true]

theorem second_login_refuted : ¬ ConnOK secondLoginWitness := by
  rintro ⟨u, hu, h | ⟨r, h, ha⟩⟩
  · cases hu; cases h
  · cases h; cases hu; cases ha

-- non-vacuity: a malformed and a foreign role path select nothing; an assigned one selects the role store
example : selectTarget ⟨fun a => if a = b!"sales@x" then some 7 else none, fun u r => u = 1 && r = 7⟩ 1 (b!"Roles/sales@x/INBOX")
    = some (.role 7, b!"INBOX") := by decide +kernel
example : selectTarget ⟨fun a => if a = b!"sales@x" then some 7 else none, fun u r => u = 1 && r = 7⟩ 2 (b!"Roles/sales@x/INBOX")
    = none := by decide +kernel
example : selectTarget ⟨fun _ => none, fun _ _ => true⟩ 1 (b!"Roles/sales@x") = none := by decide +kernel

/-! ## whose store an address or a name resolves to (plan regenerated from /repo on every run) -/

/-- C05.10  recipients, users, role mailboxes, role assignments and mailbox names are resolved by equality: none of the
statements on the path from an address or a name to a store or a mailbox uses `LIKE` — so no address is a pattern for another
one (`sales_@…` vs `sales0@…`), for logins and deliveries alike. -/
theorem plan_resolution_exact :
    [(b!"db.GetUserByUsername"), (b!"db.GetUserByEmail"), (b!"db.GetRoleMailboxByEmail"), (b!"db.RoleMailboxExists"),
     (b!"db.GetOrCreateUserInitialized"), (b!"db.GetOrCreateDomain"), (b!"db.IsUserAssignedToRoleMailbox"),
     (b!"db.GetMailboxByNamePerUser"), (b!"db.MailboxExistsPerUser"), (b!"storage.DeliverMessage")].all
      (fun f => Plan.free (b!"LIKE(") (Plan.trace f) && !(Plan.trace f).isEmpty) = true := by
  decide +kernel

/-! ## the selection is a mailbox, not a row id (repair d33c862) -/

/-- C05.11  a session remembers the UIDVALIDITY of the mailbox it selected and, before every command, looks the mailbox up
again and compares (`dropStaleSelection`). Whatever happens in between — the mailbox deleted by this session or another one,
its row id handed to a mailbox created or renamed later, any history at all and any clock — a mailbox that passes the
comparison **is the incarnation that was selected**: no other mailbox of the store ever carries that UIDVALIDITY
(`Mail.validity_identifies_incarnation`). Before the repair the session went by the row id alone: after `SELECT common`,
`DELETE common`, `RENAME INBOX y` it read, flagged and expunged `y`. -/
theorem selection_denotes_selected_incarnation (now : Nat) (ops more : List Mail.Op) :
    ∀ b ∈ (Mail.run (Mail.Store.init now) ops).boxes, ∀ b' ∈ (Mail.run (Mail.Store.init now) (ops ++ more)).boxes,
      b'.validity = b.validity → b'.inc = b.inc := by
  intro b hb b' hb' hv
  exact (Mail.validity_identifies_incarnation now ops more b hb b' hb' hv.symm).symm

-- non-vacuity: `common` selected, deleted, and INBOX renamed to a new mailbox: the new mailbox has another UIDVALIDITY
example :
    ((Mail.run (Mail.Store.init 5) [.create (b!"common") 5]).boxes.map (fun b => (b.name, b.validity))).getLast? = some ((b!"common"), 10) ∧
    ((Mail.run (Mail.Store.init 5) [.create (b!"common") 5, .delete (b!"common"), .rename (b!"INBOX") (b!"y") 5]).boxes.map
      (fun b => (b.name, b.validity))).getLast? = some ((b!"y"), 11) := by decide +kernel

end Raven.Props.C05
