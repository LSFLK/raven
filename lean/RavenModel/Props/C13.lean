import RavenModel.Model.Resp
import RavenModel.Gen.Facts
/-! # C13 — every IMAP response is well-formed, whatever the stored data

`Resp.readVal` / `readLine` / `readResponse` are the strict reader the harness runs on the server's raw byte stream; the
theorems are about its value reader: everything built from the token constructors below — with arbitrary content — is
accepted by `readVal` and decodes to exactly what was put in (there is no theorem yet about whole lines). -/
namespace Raven.Props.C13
open Raven Raven.Resp

/-- C13.1  reader ∘ renderer = identity on every well-formed token tree — NIL, numbers, atoms, quoted strings (escaped),
literals with **any** octets (CR, LF, parentheses, braces, text that looks like responses), lists nested to any depth —
followed by any delimiter: literal counts are exact and parentheses balance by construction. -/
theorem recognise_render (r : R) (rest : Bytes) (fuel : Nat) (hw : WF r) (hd : isDelim rest = true) (hf : need r ≤ fuel) :
    readVal fuel (render r ++ rest) = some (r, rest) :=
  readVal_render r rest fuel hw hd hf

/-- C13.2  a quoted string with the `\` and `"` of its content escaped is read back exactly, for every content free of CR, LF
and NUL (content with those must travel as a literal: C13.3). -/
theorem quoted_roundtrip (s rest : Bytes) (h : QSafe s) : readQBody (escape s ++ 34 :: rest) = some (s, rest) :=
  readQBody_escape s rest h

/-- C13.3  a literal is followed by exactly the announced number of octets, whatever they are. -/
theorem literal_roundtrip (s rest : Bytes) : readLit (lit s ++ rest) = some (s, rest) :=
  readLit_lit s rest

/-- the nstring builder (`QuoteOrNIL` and the literal fallback): NIL for the empty string, a quoted string when the content is
quote-safe, else a literal -/
def nstring (s : Bytes) : R :=
  if s = [] then .nil else if s.all (fun c => c ≠ 13 ∧ c ≠ 10 ∧ c ≠ 0) then .quoted s else .literal s

/-- C13.2'  every string whatsoever has a well-formed nstring rendering (so any header value, name or address can be sent). -/
theorem nstring_wf (s : Bytes) : WF (nstring s) := by
  fun_cases nstring s
  · trivial
  · exact fun c hc => of_decide_eq_true (List.all_eq_true.mp ‹_› c hc)
  · trivial

/-- a FETCH response body: each requested item's name directly followed by its own value -/
def assemble (items : List (Bytes × R)) : R := .list (items.flatMap (fun p => [R.atom p.1, p.2]))

theorem wfList_flatMap (items : List (Bytes × R)) (h : ∀ p ∈ items, AtomOK p.1 ∧ WF p.2) :
    WFList (items.flatMap (fun p => [R.atom p.1, p.2])) := by
  induction items with
  | nil => trivial
  | cons p ps ih =>
    have hp := h p (by simp)
    simp only [List.flatMap_cons, List.cons_append, List.nil_append, WFList, WF]
    exact ⟨hp.1, hp.2, ih (fun q hq => h q (by simp [hq]))⟩

/-- C13.4  the assembled FETCH data, for every combination of items (several literal-valued ones included), is read back as the
same list: every requested item appears once, in order, directly followed by its own value. -/
theorem fetch_assembly_wf (items : List (Bytes × R)) (rest : Bytes) (fuel : Nat)
    (h : ∀ p ∈ items, AtomOK p.1 ∧ WF p.2) (hd : isDelim rest = true) (hf : need (assemble items) ≤ fuel) :
    readVal fuel (render (assemble items) ++ rest) = some (assemble items, rest) :=
  readVal_render _ rest fuel (by simp only [assemble, WF]; exact wfList_flatMap items h) hd hf

-- non-vacuity: two literal-valued items, the second containing text that looks like a response
example : readVal 20 (render (assemble [((b!"BODY[HEADER]"), .literal (b!"A: b\r\n\r\n")), ((b!"UID"), .num 7)]) ++ [13, 10])
    = some (assemble [((b!"BODY[HEADER]"), .literal (b!"A: b\r\n\r\n")), ((b!"UID"), .num 7)], [13, 10]) := by
  apply readVal_render
  · simp only [assemble, WF, List.flatMap_cons, List.flatMap_nil, List.cons_append, List.nil_append, List.append_nil, WFList, AtomOK]
    decide
  · decide
  · decide

/-- C13.7  nothing the three protocol services send is produced by Go's own string quoting (`strconv.Quote…`, the `%q` verb):
its escapes (`\x..`, `\u....`, `\t`) put a backslash in front of characters that are not quoted-specials, which a strict
reader refuses; what is quoted goes through the escaping that `quoted_roundtrip` is about. Regenerated from /repo on every
run. -/
theorem no_go_quoting : Raven.Gen.goQuoting = [] := by decide

end Raven.Props.C13
