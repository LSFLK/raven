import RavenModel.Model.Policy
/-! # C17 — mail is filed where its recipient and the policy say -/
namespace Raven.Props.C17
open Raven Raven.Policy Raven.GoStr

/-- C17.1  RCPT-time policy = the documented one, for **every** configuration, directory content, recipient count and
address: a recipient is accepted iff the transaction has room (`max_recipients`), its domain is allowed (`allowed_domains`,
empty = all, compared case-insensitively) and — with `reject_unknown_user` — the address is a role mailbox or a user of
that very domain. -/
theorem rcpt_policy_matches_docs (cfg : Cfg) (dir : Dir) (count : Nat) (addr : Bytes) :
    rcptImpl cfg dir count addr = 250 ↔ DocAccept cfg dir count addr :=
  rcpt_accept_iff cfg dir count addr

/-- C17.1'  a refusal is 452 exactly when the transaction is full, otherwise 550 (450 if the address cannot be looked up). -/
theorem rcpt_refusals (cfg : Cfg) (dir : Dir) (count : Nat) (addr : Bytes) :
    rcptImpl cfg dir count addr ∈ [250, 452, 550, 450] ∧ (count ≥ cfg.maxRcpt → rcptImpl cfg dir count addr = 452) :=
  rcpt_refusal_codes cfg dir count addr

/-- C17.2  filing: the folder is Spam exactly when the spam-filter headers mark the message, else the configured default;
the store is the role mailbox's exactly when the address is one, else that user's. -/
theorem filing_exact (cfg : Cfg) (dir : Dir) (rspamd spamStatus : Option Bytes) (addr l d : Bytes)
    (h : splitAddr addr = some (l, d)) :
    (targetFolder cfg rspamd spamStatus = if isSpam rspamd spamStatus then spamFolder else cfg.defaultFolder) ∧
    (dir.isRole addr = true → targetOwner dir addr = some (.role addr)) ∧
    (dir.isRole addr = false → dir.disabled l d = false → targetOwner dir addr = some (.user l d)) := by
  refine ⟨rfl, ?_, ?_⟩
  · intro hr; simp [targetOwner, h, hr]
  · intro hr hd; simp [targetOwner, h, hr, hd]

/-- C17.2'  the spam markers, as documented in storage.go: X-Rspamd-Action ∈ {reject, rewrite subject, add header} or
X-Spam-Status starting with "yes" — case-insensitively and ignoring surrounding blanks. -/
theorem spam_markers :
    isSpam (some (b!" Reject ")) none = true ∧ isSpam (some (b!"ADD HEADER")) none = true ∧
    isSpam (some (b!"rewrite subject")) none = true ∧ isSpam none (some (b!"Yes, score=9.1")) = true ∧
    isSpam (some (b!"no action")) (some (b!"No, score=0.1")) = false ∧ isSpam (some (b!"greylist")) none = false ∧
    isSpam none none = false := by decide +kernel

/-- C17.3  the quota decides acceptance as documented ("Enable quota checking", "Quota limit in bytes"): a recipient is
refused for its quota exactly when checking is enabled and what its store holds plus the message exceeds the limit. -/
theorem quota_enforced (cfg : Cfg) (usage size : Nat) : quotaImpl cfg usage size = true ↔ QuotaDoc cfg usage size := by
  unfold quotaImpl QuotaDoc
  cases cfg.quotaEnabled <;> simp

/-- the boundary: exactly at the limit is accepted, one octet more is refused -/
theorem quota_boundary :
    quotaImpl ⟨[], false, 100, 1000, true, 13, b!"INBOX"⟩ 8 5 = true ∧ quotaImpl ⟨[], false, 100, 1000, true, 12, b!"INBOX"⟩ 8 5 = false ∧
    quotaImpl ⟨[], false, 100, 1000, false, 1, b!"INBOX"⟩ 8 5 = true := by decide

/-- C17.3'  with quota checking disabled (the default) the quota never refuses anything, as documented. -/
theorem quota_disabled (cfg : Cfg) (usage size : Nat) (h : cfg.quotaEnabled = false) : QuotaDoc cfg usage size := by
  intro h'; rw [h] at h'; cases h'

/-- C17.4  the size limit: a message of more than `max_size` octets is refused, one of at most `max_size` is not refused
for its size. -/
theorem size_limit (cfg : Cfg) (size : Nat) : sizeOk cfg size = true ↔ size ≤ cfg.maxSize := by
  simp [sizeOk]

/-- C17.5  the letter case of the recipient's domain never matters: two spellings of one address pass the same checks and
are filed in the same store (the local part is taken as written). -/
theorem domain_case_irrelevant (cfg : Cfg) (dir : Dir) (count : Nat) (l d d' : Bytes) (hd : 64 ∉ d) (hd' : 64 ∉ d')
    (h : toLower d = toLower d') :
    rcptWire cfg dir count (l ++ 64 :: d) = rcptWire cfg dir count (l ++ 64 :: d') ∧
    ownerWire dir (l ++ 64 :: d) = ownerWire dir (l ++ 64 :: d') := by
  unfold rcptWire ownerWire
  rw [lowerDomain_at l d hd, lowerDomain_at l d' hd', h]
  exact ⟨rfl, rfl⟩

/-- …and the store is the one of the lower-case spelling: `alice@Example.COM` is `alice` of `example.com`, accepted under
`allowed_domains: [example.com]` (the case that used to be refused, formerly finding C17-F2). -/
theorem domain_case_example :
    ownerWire ⟨fun _ _ => false, fun _ _ => false, fun _ => false⟩ (b!"alice@Example.COM") = some (.user (b!"alice") (b!"example.com")) ∧
    rcptWire ⟨[b!"example.com"], false, 3, 1000, false, 0, b!"INBOX"⟩ ⟨fun _ _ => false, fun _ _ => false, fun _ => false⟩ 0 (b!"alice@Example.COM") = 250 ∧
    rcptWire ⟨[b!"example.com"], false, 3, 1000, false, 0, b!"INBOX"⟩ ⟨fun _ _ => false, fun _ _ => false, fun _ => false⟩ 0 (b!"alice@example.org") = 550 := by
  decide +kernel

end Raven.Props.C17
