import RavenModel.Model.Proto
/-! # C06 — protocol state machine and TLS gate hold for every command sequence

The tables `Gen.commands` and `Gen.authEvents` are regenerated from /repo on every run; the `decide` facts below are
therefore re-checked against what the dispatch loop and the handlers say *now*. -/
namespace Raven.Props.C06
open Raven Raven.Gen Raven.Proto

/-- the dispatch alphabet is the one the model knows (a new `case` label is a broken obligation) -/
theorem alphabet_known : commands.all (fun c => knownNames.contains c.name) = true := by decide +kernel

/-- table fact: every database accessor outside LOGIN/AUTHENTICATE is dominated by the authentication guard -/
theorem table_auth_gated : commands.all AuthGated = true := by decide +kernel

/-- table fact: every accessor of a selected-state command is dominated by the selection guard -/
theorem table_sel_gated : commands.all SelGated = true := by decide +kernel

/-- table fact: a session becomes authenticated in exactly one place (authenticateUser), and every call of it is
dominated by the TLS check -/
theorem table_tls_gate :
    authEvents.all (fun e => if e.isSet then e.at' = b!"auth.authenticateUser" else e.tlsGuard) = true ∧
    (authEvents.filter (·.isSet)).length = 1 := by decide +kernel

/-- C06.1  before authentication no command whatsoever (valid or malformed arguments, any state of selection) reaches a store. -/
theorem no_data_before_auth (s : State) (c : Command) (hc : c ∈ commands) (hs : s.authed = false)
    (hl : isLoginCmd c = false) : reach s c = [] :=
  reach_nil_of_unauth s c hs hl (List.all_eq_true.mp table_auth_gated c hc)

/-- C06.2  with no mailbox selected, every selected-state command (and NOOP's polling) reaches no store. -/
theorem selected_only (s : State) (c : Command) (hc : c ∈ commands) (hs : s.selected = false)
    (hsel : (isSelectedStateCmd c || c.name = b!"NOOP") = true) : reach s c = [] :=
  reach_nil_of_unselected s c hs hsel (List.all_eq_true.mp table_sel_gated c hc)

/-- C06.3 (TLS gate, every command sequence)  on a connection that is not protected by TLS no sequence of commands, whatever
the backend would answer, makes the session authenticated. -/
theorem tls_gate (s : State) (is : List Input) (htls : (run s is).tls = false) (hs : s.authed = false) :
    (run s is).authed = false := by
  induction is generalizing s with
  | nil => exact hs
  | cons i rest ih =>
    -- the connection is still unprotected at the end, hence was all along
    have h0 : s.tls = false := run_tls_false (i :: rest) s htls
    exact ih (next s i) htls (next_unauthed s i hs (by rw [h0, Bool.false_and]))

/-- C06.3'  after STARTTLS the session continues unauthenticated, with nothing selected. -/
theorem starttls_fresh (s : State) (i : Input) (hc : i.cmd.uidSub = false) (hn : i.cmd.name = b!"STARTTLS") (ht : s.tls = false) :
    next s i = { tls := true, authed := false, selected := false, readOnly := false } := by
  simp only [next, isLoginCmd, hc, hn, ht]; rfl

/-- C06.1 for every command sequence: while the backend accepts no credentials the session stays unauthenticated, whatever
is sent — and so (C06.1) reaches no store. -/
theorem no_data_before_auth_seq (s : State) (is : List Input) (hs : s.authed = false)
    (hno : ∀ i ∈ is, isLoginCmd i.cmd = true → (s.tls && i.backendOK) = false ∨ i.backendOK = false) :
    (∀ i ∈ is, i.backendOK = false) → (run s is).authed = false := by
  intro hb
  induction is generalizing s with
  | nil => exact hs
  | cons i rest ih =>
    exact ih (next s i) (next_unauthed s i hs (by rw [hb i (List.mem_cons_self ..), Bool.and_false]))
      (fun j hj _ => .inr (hb j (List.mem_cons_of_mem _ hj))) (fun j hj => hb j (List.mem_cons_of_mem _ hj))

/-- C06.5  a failed SELECT/EXAMINE leaves no mailbox selected. -/
theorem failed_select_unselects (s : State) (i : Input) (hc : i.cmd.uidSub = false)
    (hn : i.cmd.name = b!"SELECT" ∨ i.cmd.name = b!"EXAMINE") (ha : s.authed = true) (hf : i.selectOK = false) :
    (next s i).selected = false := by
  rcases hn with h | h <;> simp only [next, isLoginCmd, hc, h, ha, hf] <;> rfl

end Raven.Props.C06
