import RavenModel.Model.Plan
import RavenModel.Model.Durable
/-! # C07 — a crash at any instant leaves usable stores and keeps acknowledged work -/
namespace Raven.Props.C07
open Raven.Durable

/-- C07.1–3  for every sequence of statement commits of any number of sessions **and crashes at any point between them**:
every message listed in the mailbox is complete (its message and part rows were all committed before its link), UIDs — linked
or allocated — are distinct and below UIDNEXT, every acknowledged addition is listed, exactly once, and no session is refused. -/
theorem crash_anywhere (evs : List Ev) : Inv (evs.foldl step init) := inv_run evs

/-- listed ⇒ complete, spelled out -/
theorem listed_is_complete (evs : List Ev) : ∀ l ∈ (evs.foldl step init).links, complete (evs.foldl step init) l.2 :=
  (inv_run evs).visibleComplete

/-- acknowledged ⇒ still there after any later crashes -/
theorem ack_durable (evs : List Ev) (c : Nat) (h : c ∈ (evs.foldl step init).acked) :
    ∃ u, (u, c) ∈ (evs.foldl step init).links :=
  (inv_run evs).ackedLinked c h

/-- the UID rules survive: linked UIDs are distinct and below UIDNEXT -/
theorem uid_rules (evs : List Ev) :
    ((evs.foldl step init).links.map (·.1)).Nodup ∧ ∀ u ∈ (evs.foldl step init).links.map (·.1), u < (evs.foldl step init).uidNext := by
  have h := inv_run evs
  exact ⟨(List.nodup_append.mp h.uidsNodup).2.1, fun u hu => h.uidsLt u (List.mem_append_right _ hu)⟩

/-- a crash loses only what was volatile: with no statement sequence in flight it changes nothing (a clean stop and restart
loses nothing) -/
theorem clean_restart_identity (s : St) (h : s.active = []) : step s .crash = s := by
  cases s; simp_all [step]

/-- acknowledged work and the mailbox are never touched by a crash -/
theorem crash_keeps_durable (s : St) :
    (step s .crash).links = s.links ∧ (step s .crash).acked = s.acked ∧ (step s .crash).uidNext = s.uidNext ∧ (step s .crash).msgs = s.msgs := by
  simp [step]

/-- C07.4  store creation is restartable: killed after any number k of its commits, the next open completes it -/
theorem creation_restartable (n k : Nat) : usable n (openDb n (crashedAt n k)) = true := by
  unfold openDb crashedAt usable
  by_cases h : k > n
  · simp [h, Nat.min_eq_right (Nat.le_of_lt h)]
  · simp [h]

/-- …which the earlier rule did not achieve: a kill after one of five commits left the store unusable for good -/
theorem old_rule_refuted : usable 5 (openDbOld 5 (crashedAt 5 1)) = false := by decide +kernel

/-- non-vacuity: a run with two sessions, a crash in the middle of the second and a retry -/
example : (([Ev.start 1, .adv 1, .adv 1, .start 2, .adv 2, .adv 1, .crash, .start 3, .adv 3, .adv 3, .adv 3] : List Ev).foldl step init).links = [(2, 3), (1, 1)] ∧
    (([Ev.start 1, .adv 1, .adv 1, .start 2, .adv 2, .adv 1, .crash, .start 3, .adv 3, .adv 3, .adv 3] : List Ev).foldl step init).acked = [3, 1] := by decide +kernel

/-! ## acknowledged ⇒ committed, in the code's own statement order (plan regenerated from /repo on every run) -/

/-- the operations whose acknowledgement the property protects -/
def ackedOps : List Raven.Bytes :=
  [(b!"lmtp.handleDATA"), (b!"message.HandleAppendWithReader"), (b!"message.HandleCopy"), (b!"uid.handleUIDCopy"),
   (b!"message.HandleStore"), (b!"message.HandleExpunge"), (b!"uid.handleUIDExpunge"), (b!"selection.HandleClose"),
   (b!"mailbox.HandleCreate"), (b!"mailbox.HandleDelete"), (b!"mailbox.HandleRename"), (b!"mailbox.HandleSubscribe"),
   (b!"mailbox.HandleUnsubscribe")]

/-- C07.9  in the plan of every acknowledged operation the last write precedes the acknowledgement, every transaction that
is begun is committed in line before it, and no write or commit sits in a deferred call or a goroutine: when the client reads
`250` / the tagged `OK`, every statement of the operation has been committed (in `Durable` the acknowledgement is part of the last step, after the link row). -/
theorem plan_ack_after_commit : ackedOps.all (fun op => Raven.Plan.ackAfterCommit (Raven.Plan.trace op)) = true := by decide +kernel

/-- C07.9'  both ways of adding a message (delivery, APPEND) perform the steps of the machine in the machine's order:
message row, part rows, UID allocation, link row, acknowledgement. -/
theorem plan_machine_order :
    Raven.Plan.deliveryOrder (Raven.Plan.trace (b!"lmtp.handleDATA")) = true ∧
    Raven.Plan.deliveryOrder (Raven.Plan.trace (b!"message.HandleAppendWithReader")) = true := by decide +kernel

/-- C07.10  opening a store — a process's first contact with it: after a crash, after a restart, or while another process is
in the middle of an operation on it — creates what is missing and **deletes and rewrites nothing**; whether the store is
complete is decided by the marker (`userDBInitialized`) before anything is created. -/
theorem plan_open_deletes_nothing :
    [(b!"db.DBManager.GetUserDB"), (b!"db.DBManager.GetRoleMailboxDB"), (b!"db.DBManager.initUserDB")].all (fun f =>
      let t := Raven.Plan.trace f
      !t.isEmpty && Raven.Plan.free (b!"sql DELETE") t && Raven.Plan.free (b!"sql UPDATE") t && Raven.Plan.free (b!"sql DROP") t) = true ∧
    [(b!"db.DBManager.GetUserDB"), (b!"db.DBManager.GetRoleMailboxDB")].all (fun f =>
      Raven.Plan.before (Raven.Plan.idx (b!"call db.userDBInitialized") (Raven.Plan.trace f))
        (Raven.Plan.idx (b!"call db.DBManager.initUserDB") (Raven.Plan.trace f))) = true := by
  decide +kernel

/-- C07.11  every statement that creates a table or an index of a store is repeatable (`… IF NOT EXISTS`): `creation_restartable`
completes an interrupted creation by running it again, which is sound only if no step fails the second time. -/
theorem plan_creation_repeatable :
    ((Raven.Plan.trace (b!"db.DBManager.initUserDB")).filter (fun e => Raven.GoStr.hasPrefix e (b!"sql CREATE"))).all
      (fun e => e = (b!"sql CREATE TABLE IF") || e = (b!"sql CREATE INDEX IF") || e = (b!"sql CREATE UNIQUE INDEX")) = true ∧
    10 ≤ ((Raven.Plan.trace (b!"db.DBManager.initUserDB")).filter (fun e => Raven.GoStr.hasPrefix e (b!"sql CREATE"))).length := by
  decide +kernel

end Raven.Props.C07
