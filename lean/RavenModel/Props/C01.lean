import RavenModel.Model.Plan
import RavenModel.Model.Deliver
import RavenModel.Props.C07
/-! # C01 — an LMTP acceptance is a durable, per-recipient promise -/
namespace Raven.Props.C01
open Raven Raven.Policy Raven.Deliver

/-- C01.1  one reply per accepted recipient, in RCPT order -/
theorem reply_count (tx : Tx) (c : Counts) : (deliverAll tx c).2.length = tx.owners.length :=
  deliverFrom_length tx tx.owners c

/-- C01.2  for every mailbox of every store: what it holds after the end of data is what it held before plus the number of
2xx replies given for it — for any recipient list (duplicates and addresses resolving to one store included), any verdict of
the parsers. Both halves of the promise are corollaries. -/
theorem count_is_accepted (tx : Tx) (c : Counts) (k : Key) :
    (deliverAll tx c).1 k = c k + acceptedFor tx k tx.owners (deliverAll tx c).2 :=
  deliverFrom_count tx k tx.owners c

/-- no 2xx reply for a mailbox ⇒ that mailbox is unchanged (a recipient answered 4xx/5xx has no new message) -/
theorem refused_no_message (tx : Tx) (c : Counts) (k : Key) (h : acceptedFor tx k tx.owners (deliverAll tx c).2 = 0) :
    (deliverAll tx c).1 k = c k := by
  rw [count_is_accepted, h]; rfl

/-- a refused transaction (unparsable message, no From, no recipient header, too large) changes no mailbox at all and answers
554 for every recipient -/
theorem invalid_changes_nothing (tx : Tx) (c : Counts) (h : tx.valid = false) :
    (deliverAll tx c).1 = c ∧ ∀ r ∈ (deliverAll tx c).2, r = 554 := by
  rw [deliverAll, deliverFrom_invalid tx h]
  exact ⟨rfl, by simp⟩

/-- replies are 250, 550 or 554 -/
theorem reply_codes (tx : Tx) (c : Counts) : ∀ r ∈ (deliverAll tx c).2, r = 250 ∨ r = 550 ∨ r = 554 :=
  deliverFrom_codes tx tx.owners c

/-- C01.3  an accepted message has at least one part row, whatever the shape of its Content-Type: there is content to fetch -/
theorem accepted_has_parts (ct : Ct) : 1 ≤ partRows ct := by cases ct <;> simp [partRows]

/-- non-vacuity: two recipients resolving to one mailbox, one unresolvable, one other -/
example :
    let a : Owner := .user (b!"a") (b!"x")
    let r : Owner := .role (b!"team@x")
    let tx : Tx := { valid := true, mimeOK := true, folder := (b!"INBOX"), owners := [some a, none, some a, some r] }
    (deliverAll tx (fun _ => 0)).2 = [250, 550, 250, 250] ∧ (deliverAll tx (fun _ => 0)).1 (a, (b!"INBOX")) = 2 ∧
    (deliverAll tx (fun _ => 0)).1 (r, (b!"INBOX")) = 1 ∧ (deliverAll tx (fun _ => 0)).1 (a, (b!"Spam")) = 0 := by decide +kernel

/-! ## the order of the code's statements (plan regenerated from /repo on every run) -/

/-- C01.6  link last, reply after the link: in the plan of `Session.handleDATA` (with `DeliverMessage`, the MIME store and
`AddMessageToMailboxPerUser` inlined) the message row, the header / address / blob / part rows, the UID allocation, the
`message_mailbox` row and the `250` occur in exactly this order, the link and the allocation once each — the step order of
the delivery machine (`Durable`, C07/C08) and of `Deliver.deliverAll` is the code's. -/
theorem plan_link_last : Plan.deliveryOrder (Plan.trace (b!"lmtp.handleDATA")) = true := C07.plan_machine_order.1

/-- C01.6'  the acknowledgement comes after the last write, nothing is written in a deferred call or a goroutine. -/
theorem plan_ack_after_writes : Plan.ackAfterCommit (Plan.trace (b!"lmtp.handleDATA")) = true :=
  List.all_eq_true.mp C07.plan_ack_after_commit _ (List.mem_cons_self ..)

/-- C01.6''  the steps of the plan, as numbers, are non-decreasing (the list form of `plan_link_last`) -/
theorem plan_phases_sorted :
    ((Plan.trace (b!"lmtp.handleDATA")).filterMap Plan.deliveryPhase).Pairwise (· ≤ ·) :=
  Plan.deliveryOrder_sorted plan_link_last

end Raven.Props.C01
