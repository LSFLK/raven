import RavenModel.Model.Plan
import RavenModel.Model.Session
import RavenModel.Props.C08
/-! # C10 — flag updates are exact, persistent and respect read-only selection -/
namespace Raven.Props.C10
open Raven Raven.Mail Raven.Flags Raven.GoStr

/-- C10.1  STORE is exact set algebra: FLAGS replaces, +FLAGS adds, -FLAGS removes exactly the named flags
(`\Recent` is never client-settable), for every current flag list and every argument list. -/
theorem store_algebra (cur new : List Bytes) (t : Bytes) :
    (t ∈ newFlags cur new .set ↔ t ∈ new ∧ t ≠ recent) ∧
    (t ∈ newFlags cur new .add ↔ t ∈ cur ∨ (t ∈ new ∧ t ≠ recent)) ∧
    (t ∈ newFlags cur new .del ↔ t ∈ cur ∧ ¬ (t ∈ new ∧ t ≠ recent)) :=
  calc_mem cur new t

/-- C10.1'  the stored flag string round-trips: `strings.Fields (strings.Join ts " ") = ts` for every list of tokens,
so the set written by one STORE is the set read by the next command and by every later session. -/
theorem flags_persist (ts : List Bytes) (h : ∀ t ∈ ts, Tok t) : fields (join ts) = ts := fields_join ts h

/-- C10.1''  a flag update addresses exactly the named message: with UID STORE every link with another UID keeps its
flags, message and UID; the addressed one gets exactly the computed set. -/
theorem store_targets_exactly (ls : List Link) (u : Nat) (upd : List Bytes) (x : Link)
    (hx : x ∈ ls.map (fun x => if x.uid = u then { x with flags := upd } else x)) :
    ∃ y ∈ ls, x.uid = y.uid ∧ x.msg = y.msg ∧ (if y.uid = u then x.flags = upd else x.flags = y.flags) := by
  obtain ⟨y, hy, rfl⟩ := List.mem_map.mp hx
  refine ⟨y, hy, ?_⟩
  by_cases h : y.uid = u <;> simp [h]

/-- C10.2  an operation on one mailbox leaves every other mailbox of the store untouched (frame): in particular flags
of a copy in another mailbox are independent of the original. -/
theorem frame_modify (s : Store) (n m : Bytes) (f : Mbox → Mbox) (hne : m ≠ n) (hf : ∀ b, (f b).name = b.name) :
    (s.modify n f).find m = s.find m := by
  -- the rewritten mailbox keeps its name, and a mailbox named `m` is not the one rewritten
  have hg : ∀ b : Mbox, (if b.name = n then f b else b).name = b.name := fun b => by split <;> simp [hf]
  simp only [Store.modify, Store.find, List.find?_map, Function.comp_def, hg]
  cases h : s.boxes.find? (fun b => b.name = m) with
  | none => rfl
  | some b => simp [show b.name ≠ n from fun e => hne (e ▸ (by simpa using List.find?_some h : b.name = m).symm)]

/-- C10.3  the flag tests (`hasFlag`, `(' '||flags||' ') LIKE '% \Seen %'`) are token membership, never substring: -/
theorem flag_test_is_membership (fl : List Bytes) (t : Bytes) : hasTok fl t = true ↔ ∃ f ∈ fl, equalFold f t = true := by
  simp [hasTok]

/-- …and the substring test the pinned tree used is *not* membership (witness: keyword `\Seenish` vs `\Seen`). -/
theorem substring_is_not_membership :
    containsSub (b!"\\Seenish") seen = true ∧ hasTok [(b!"\\Seenish")] seen = false := by decide +kernel

/-- C10.4  a mailbox opened with EXAMINE is never modified by that session: any sequence of STORE, UID STORE, EXPUNGE,
UID EXPUNGE, CLOSE, UNSELECT, EXAMINE commands issued while the selection is read-only (or absent) leaves the store
exactly as it was. -/
theorem examine_never_mutates (s : Store) (sel : Option Sel) (cs : List Cmd) (hro : roSel sel = true)
    (hc : ∀ c ∈ cs, c.isSelect = false) : (sessRun s sel cs).1 = s :=
  sessRun_ro s sel cs hro hc

-- non-vacuity
example : (sessRun (Store.add (Store.init 1) (b!"INBOX") 1 []).1 none
    [.examine (b!"INBOX"), .store [deleted] .add [1], .expunge, .close]).1 = (Store.add (Store.init 1) (b!"INBOX") 1 []).1 :=
  examine_never_mutates _ _ _ rfl (by decide)
example : newFlags [seen, (b!"kw")] [(b!"kw"), recent, deleted] .add = [seen, (b!"kw"), deleted] := by decide +kernel

/-! ## the statements behind the conditional flag write and COPY (plan regenerated from /repo on every run) -/

/-- C10.8  `ApplyFlagChange` is the compare-and-swap loop the model's `EvC.cas` step (`Interleave.stepC`) describes: **inside** the retry loop the new
flag list is computed from the flags last read, written under the condition that they are still the stored ones, and re-read
when they are not — a value computed once outside the loop would write a stale list over another session's change. -/
theorem plan_flag_change_recomputes :
    Raven.Plan.trace (b!"message.ApplyFlagChange") =
      [(b!"loop {"), (b!"call message.CalculateNewFlags"), (b!"sql UPDATE message_mailbox"), (b!"sql SELECT message_mailbox"), (b!"}")] :=
  C08.plan_flag_change_recomputes

/-- C10.9  the commands that only look — SELECT / EXAMINE (one handler), UNSELECT, SEARCH, NOOP, IDLE — issue no statement
that writes, in any state and whatever the mailbox holds: opening a mailbox, leaving it without CLOSE, searching it and
waiting in it change no flag (`\Recent` included) and nothing else. Plans regenerated from /repo on every run. -/
theorem plan_looking_writes_nothing :
    [(b!"selection.HandleSelect"), (b!"selection.HandleUnselect"), (b!"message.HandleSearch"), (b!"extension.HandleNoop"),
     (b!"extension.HandleIdle")].all (fun f =>
      !(Plan.trace f).isEmpty && !(Plan.trace f).any Plan.isSqlWrite && !(Plan.trace f).any Plan.isDetachedWrite &&
      Plan.free (b!"tx begin") (Plan.trace f)) = true := by
  decide +kernel

end Raven.Props.C10
