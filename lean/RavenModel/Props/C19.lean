import RavenModel.Model.SearchImpl
import RavenModel.Base.GoStrSub
/-! # C19 — SEARCH returns exactly the messages that satisfy the criteria -/
namespace Raven.Props.C19
open Raven Raven.Search

/-- C19.1  for every message and **every program of the search-key language** — simple keys (flag keys, KEYWORD/UNKEYWORD,
sequence and UID sets, sizes, header / body / text substrings, internal and sent dates), HEADER, NOT over any key, OR over any two
keys, parenthesised groups, nested to any depth, and their implicit AND — the evaluator reads the printed program back as the
same keys and computes exactly what the reference evaluator computes on the key tree; in the specification's mode, in
SEARCH's and in UID SEARCH's. -/
theorem eval_correct (P : Prim) (m : Mode) (ks : Keys) (fuel : Nat) (h : ks.cost ≤ fuel) :
    evalKeys P m fuel ks.print = some (ks.eval P) :=
  evalKeys_print P m ks fuel h

/-- …in particular such a program is never refused -/
theorem language_is_wellformed (P : Prim) (m : Mode) (ks : Keys) : (evalKeys P m ks.cost ks.print).isSome = true := by
  rw [eval_correct P m ks ks.cost (Nat.le_refl _)]; rfl

/-- C19.2  an incomplete key (an argument or a sub-key missing after NOT, OR, HEADER, FROM …, at the end of the program or
of a group) has no value: it is an error, not an index beyond the end of the token list (the OR panic cannot return) and not
some other program's result -/
theorem incomplete_is_error (P : Prim) (m : Mode) (fuel : Nat) :
    evalKeys P m fuel [.orT, .kw0 (b!"SEEN")] = none ∧ evalKeys P m fuel [.notT] = none ∧
    evalKeys P m fuel [.kw1 (b!"FROM")] = none ∧ evalKeys P m fuel [.hdr, .other (b!"Subject")] = none ∧
    evalKeys P m fuel [.kw0 (b!"SEEN"), .group (b!"(OR SEEN)") [.orT, .kw0 (b!"SEEN")]] = none := by
  -- `_ + n`: `n` nested calls of `evalKeys` / `evalKey` lead to the missing key. With less fuel the fuel runs out on the
  -- way, from `n` on the walk meets the end of the list inside a key: `none` either way
  refine ⟨?_, ?_, ?_, ?_, ?_⟩
  · match fuel with | 0 | 1 | 2 | _ + 3 => rfl
  · match fuel with | 0 | 1 | 2 | _ + 3 => rfl
  · match fuel with | 0 | 1 | _ + 2 => rfl
  · match fuel with | 0 | 1 | _ + 2 => rfl
  · match fuel with | 0 | 1 | 2 | 3 | 4 | 5 | _ + 6 => rfl

/-- C19.3  whether a program is refused does not depend on the mailbox content -/
theorem refusal_is_about_the_program (P Q : Prim) (m : Mode) (fuel : Nat) (ts : List Tok) :
    (evalKeys P m fuel ts).isSome = (evalKeys Q m fuel ts).isSome :=
  wellformed_indep P m Q fuel ts

/-- C19.4  ascending order without duplicates: the answer is the selected mailbox's numbering filtered, so it inherits
strict ascent from the mailbox (sequence numbers 1..N, UIDs ascending: C03/C09). -/
theorem ascending_nodup (uidMode : Bool) (crit : Bytes) (box : List Msg) (ns : List Nat)
    (hs : (box.map (fun m => if uidMode then m.uid else m.seq)).Pairwise (· < ·))
    (h : search uidMode crit box = .hits ns) : ns.Pairwise (· < ·) := by
  -- whichever branch answers, the hits are the mailbox's numbering filtered
  have key : ∀ (md : Mode), (hitsOf uidMode md (fuelFor crit) (tokens crit) box).Pairwise (· < ·) := fun md => by
    unfold hitsOf
    rw [List.pairwise_map] at hs ⊢
    exact hs.sublist List.filter_sublist
  revert h
  -- `search` answers `.bad` (empty program, or SEARCH's walk refuses), UID SEARCH's hits (`case2`) or SEARCH's (`case3`)
  fun_cases search uidMode crit box
  case case2 hu => rintro ⟨⟩; exact hu ▸ key .uid
  case case3 hu _ => rintro ⟨⟩; exact Bool.eq_false_iff.mpr hu ▸ key .search
  all_goals nofun

/-- C19.5  on every program the specification evaluates, SEARCH and UID SEARCH as coded answer what the specification answers -/
theorem impl_meets_spec_on_supported (uidMode : Bool) (crit : Bytes) (box : List Msg)
    (h : wellFormed .spec (fuelFor crit) (tokens crit) = true) (hne : (tokens crit).isEmpty = false) :
    search uidMode crit box = searchSpec uidMode crit box := by
  -- where the specification has a value, a mode that lets through at least as much has the same, on every message
  have agree : ∀ md, Mode.le .spec md = true → ∀ m : Msg,
      evalKeys (primOf m) md (fuelFor crit) (tokens crit) = evalKeys (primOf m) .spec (fuelFor crit) (tokens crit) :=
    fun md hle m => by
      obtain ⟨v, hv⟩ := Option.isSome_iff_exists.mp ((refusal_is_about_the_program (primOf m) (primOf noMsg) ..).trans h)
      rw [evalKeys_mode_mono (primOf m) hle hv, hv]
  unfold wellFormed at h
  unfold search searchSpec wellFormed hitsOf
  simp only [agree .search rfl, agree .uid rfl, hne, h]
  cases uidMode <;> rfl

/-- C19.6 (full statement, true of the specification)  a program outside the search-key language is an error -/
theorem spec_unsupported_is_error (uidMode : Bool) (crit : Bytes) (box : List Msg)
    (h : wellFormed .spec (fuelFor crit) (tokens crit) = false) : searchSpec uidMode crit box = .bad := by
  unfold searchSpec
  simp [h]

/-- C19.6 partial (what the code achieves)  SEARCH refuses every program its walk rejects: incomplete keys and unclosed
groups. What is missing from the full statement: a bare unknown word is skipped by SEARCH (C19-F2) and UID SEARCH refuses
nothing (C19-F1); both are pinned by existing tests. -/
theorem unsupported_is_error_partial (crit : Bytes) (box : List Msg)
    (h : wellFormed .search (fuelFor crit) (tokens crit) = false) : search false crit box = .bad := by
  unfold search
  simp [h]

/-- the two recorded gaps as witnesses against the full statement for the code as it is, and the programs that used to be
misread, now evaluated or refused -/
theorem gap_witnesses :
    search false (b!"BOGUS") [] = .hits [] ∧ searchSpec false (b!"BOGUS") [] = .bad ∧
    search true (b!"FROM") [] = .hits [] ∧ searchSpec true (b!"FROM") [] = .bad ∧
    search false (b!"(SEEN") [] = .bad ∧ search false (b!"OR OR SEEN FLAGGED") [] = .bad ∧
    search false (b!"NOT NOT") [] = .bad ∧ search false (b!"FROM") [] = .bad ∧ search false (b!"OR (FROM) SEEN") [] = .bad := by decide +kernel

/-- groups and nested operators are evaluated: message 1 is seen and flagged, message 2 only seen -/
theorem nested_examples :
    let m1 : Msg := { seq := 1, uid := 4, flags := [(b!"\\Seen"), (b!"\\Flagged")], idate := (2026, 1, 1), sdate := none, raw := [], maxSeq := 2, maxUid := 9 }
    let m2 : Msg := { seq := 2, uid := 9, flags := [(b!"\\Seen")], idate := (2026, 1, 1), sdate := none, raw := [], maxSeq := 2, maxUid := 9 }
    search false (b!"(SEEN FLAGGED)") [m1, m2] = .hits [1] ∧
    search false (b!"NOT (SEEN FLAGGED)") [m1, m2] = .hits [2] ∧
    search false (b!"OR OR DELETED FLAGGED NOT SEEN") [m1, m2] = .hits [1] ∧
    search true (b!"NOT NOT (OR (FLAGGED) DRAFT)") [m1, m2] = .hits [4] ∧
    search false (b!"SEEN (NOT (FLAGGED))") [m1, m2] = .hits [2] ∧
    searchSpec true (b!"SEEN (NOT (FLAGGED))") [m1, m2] = .hits [9] := by decide +kernel

/-- sequence sets inside SEARCH address what they denote: `*` is the last message only, comma lists are unions -/
theorem set_examples :
    setMatches 3 5 (b!"*") = false ∧ setMatches 5 5 (b!"*") = true ∧ setMatches 2 5 (b!"1,3:*") = false ∧
    setMatches 4 5 (b!"1,3:*") = true ∧ setMatches 2 5 (b!"3:1") = true := by decide +kernel

/-- C19.9  the substring keys (FROM, TO, CC, BCC, SUBJECT, HEADER, BODY, TEXT) test for a **factor**, without regard to ASCII
letter case: the key holds exactly when the searched text, in upper case, is `a ++ needle ++ b` for some `a` and `b` — wherever
the occurrence lies and whatever precedes it, a false start of the needle included. -/
theorem substring_key_is_factor (text needle : Bytes) :
    GoStr.containsSub (toUpper text) (toUpper needle) = true ↔ ∃ a b, toUpper text = a ++ toUpper needle ++ b :=
  GoStr.containsSub_iff _ _

/-- occurrences that begin inside a false start of the needle -/
theorem substring_false_starts :
    GoStr.containsSub (toUpper (b!"ref 00012")) (toUpper (b!"0012")) = true ∧
    GoStr.containsSub (toUpper (b!"xaaab")) (toUpper (b!"AAB")) = true ∧
    GoStr.containsSub (toUpper (b!"mamamma mia")) (toUpper (b!"mamma")) = true ∧
    GoStr.containsSub (toUpper (b!"abcabcabd")) (toUpper (b!"abcabd")) = true ∧
    GoStr.containsSub (toUpper (b!"abcabcabe")) (toUpper (b!"abcabd")) = false := by decide +kernel

end Raven.Props.C19
