import RavenModel.Model.Plan
import RavenModel.Model.MailInv
import RavenModel.Model.MailDesc
/-! # C03 — UIDs are unique, ascending and never reused; UIDNEXT tells the truth

Property theorems only; the machine is `Model/Mail.lean`, its invariant `Model/MailInv.lean`.
Every statement quantifies over every clock reading and **every finite history** of the machine's operations
(delivery/APPEND, COPY, UID COPY, STORE incl. Junk/NonJunk moves, EXPUNGE/CLOSE, UID EXPUNGE, CREATE, DELETE,
RENAME incl. INBOX, SUBSCRIBE, UNSUBSCRIBE) from a freshly created store. -/
namespace Raven.Props.C03
open Raven Raven.Mail

abbrev reach (now : Nat) (ops : List Op) : Store := run (Store.init now) ops

theorem reach_inv (now : Nat) (ops : List Op) : Inv (reach now ops) := inv_run _ ops (inv_init now)

/-- C03.1  within one incarnation of a mailbox, every UID assigned is greater than every UID assigned before
(the ghost log lists assignments newest first). -/
theorem uid_strict_mono (now : Nat) (ops : List Op) :
    (reach now ops).log.Pairwise (fun newer older => newer.inc = older.inc → older.uid < newer.uid) :=
  (reach_inv now ops).logMono

/-- C03.2  no UID is ever given to a second message: the log never contains one `(incarnation, uid)` twice. -/
theorem uid_never_reused (now : Nat) (ops : List Op) :
    ((reach now ops).log.map (fun e => (e.inc, e.uid))).Nodup := by
  rw [List.Nodup, List.pairwise_map]
  exact (uid_strict_mono now ops).imp fun hab heq => by
    obtain ⟨h1, h2⟩ := Prod.mk.inj heq; exact Nat.ne_of_gt (hab h1) h2

/-- C03.2'  every message listed in a mailbox is there under the UID the log recorded for it. -/
theorem links_are_logged (now : Nat) (ops : List Op) :
    ∀ b ∈ (reach now ops).boxes, ∀ l ∈ b.links, ∃ e ∈ (reach now ops).log, e.inc = b.inc ∧ e.uid = l.uid ∧ e.msg = l.msg :=
  (reach_inv now ops).linkLogged

/-- C03.3  UIDNEXT is greater than every UID in the mailbox and than every UID ever assigned in this incarnation,
and the mailbox is listed in strictly ascending UID order without duplicates. -/
theorem uidnext_truthful (now : Nat) (ops : List Op) :
    ∀ b ∈ (reach now ops).boxes,
      (∀ l ∈ b.links, l.uid < b.uidNext) ∧
      (∀ e ∈ (reach now ops).log, e.inc = b.inc → e.uid < b.uidNext) ∧
      (b.links.map (·.uid)).Pairwise (· < ·) := by
  intro b hb
  have hi := reach_inv now ops
  exact ⟨(hi.box b hb).bound, fun e he h => hi.logBound e he b hb h.symm, (hi.box b hb).asc⟩

/-- C03.4  APPENDUID is truthful: the UID announced for an added message is the UID under which the message is then
found in that mailbox, and it is the UIDNEXT advertised before. -/
theorem appenduid_truthful (s : Store) (n : Bytes) (msg : Nat) (fl : List Bytes) (s' : Store) (u : Nat)
    (h : s.add n msg fl = (s', some u)) :
    ∃ b0, s.find n = some b0 ∧ u = b0.uidNext ∧
      ∃ b ∈ s'.boxes, b.name = n ∧ { uid := u, msg := msg, flags := fl } ∈ b.links := by
  unfold Store.add at h
  split at h
  · cases h
  next b0 hf =>
    cases h
    exact ⟨b0, hf, rfl, b0.push msg fl, List.mem_map.2 ⟨b0, find_mem hf, if_pos (find_name hf)⟩,
      by simp [Mbox.push, find_name hf], by simp [Mbox.push]⟩

/-- C03.4'  an add to a missing mailbox is refused and changes nothing. -/
theorem add_missing (s : Store) (n : Bytes) (msg : Nat) (fl : List Bytes) (h : s.find n = none) :
    s.add n msg fl = (s, none) := by
  simp [Store.add, h]

/-- C03.5 (full statement)  two different incarnations never show the same `(name, UIDVALIDITY)`. -/
def validity_fresh_full : Prop :=
  ∀ (now : Nat) (ops₁ ops₂ : List Op), ∀ b₁ ∈ (reach now ops₁).boxes, ∀ b₂ ∈ (reach now (ops₁ ++ ops₂)).boxes,
    b₁.name = b₂.name → b₁.validity = b₂.validity → b₁.inc = b₂.inc

/-- C03.5  …proved, for every history and whatever the clock does (also when it stands still or goes back between a DELETE and
the CREATE or RENAME that follows): since repair 090198b a store never issues a UIDVALIDITY twice — the new value is the clock
reading or the successor of the last value issued, whichever is larger (`Store.freshValidity`) — so UIDVALIDITY alone already
identifies the incarnation. Before the repair the value was the clock reading alone and the statement was refuted by
`[create tmp, delete tmp, create tmp]` within one second (finding C03-F1, now closed). -/
theorem validity_fresh : validity_fresh_full := by
  intro now ops₁ ops₂ b₁ hb₁ b₂ hb₂ _ hv
  exact validity_identifies_incarnation now ops₁ ops₂ b₁ hb₁ b₂ hb₂ hv

-- non-vacuity: DELETE and CREATE at the same clock reading give the name another UIDVALIDITY
example : ((reach 7 [.create (b!"tmp") 9]).boxes.map (fun b => (b.name, b.validity))).getLast? = some ((b!"tmp"), 12) ∧
    ((reach 7 [.create (b!"tmp") 9, .delete (b!"tmp"), .create (b!"tmp") 9]).boxes.map (fun b => (b.name, b.validity))).getLast? = some ((b!"tmp"), 13) := by
  decide +kernel

/-- C03.6  UIDNEXT never goes back: however the history continues, a mailbox incarnation that is still there advertises a
UIDNEXT at least as large as it did before (so a client that cached UIDNEXT never sees a smaller one under the same
UIDVALIDITY incarnation). -/
theorem uidnext_monotone (now : Nat) (ops more : List Op) :
    ∀ b ∈ (reach now ops).boxes, ∀ b' ∈ (reach now (ops ++ more)).boxes, b'.inc = b.inc → b.uidNext ≤ b'.uidNext := by
  simp only [reach, run_append]
  exact uidNext_le_of_desc (reach_inv now ops) (desc_run _ more)

/-- C03.6'  …and every mailbox of the continued history is either such a survivor or a new incarnation, numbered from the
earlier store's counter upwards: an incarnation number is never handed out twice. -/
theorem incarnation_descends (now : Nat) (ops more : List Op) :
    ∀ b' ∈ (reach now (ops ++ more)).boxes,
      (∃ b ∈ (reach now ops).boxes, b.inc = b'.inc ∧ b.uidNext ≤ b'.uidNext) ∨ (reach now ops).nextInc ≤ b'.inc := by
  simp only [reach, run_append]
  exact fun b' hb' => ((desc_run _ more).box b' hb').imp (fun ⟨b, hb, hi, _, hu⟩ => ⟨b, hb, hi, hu⟩) And.left

-- non-vacuity of C03.6: INBOX survives an EXPUNGE of everything and a RENAME of INBOX with its UIDNEXT intact
example : ((reach 1 [.add (b!"INBOX") 1 [b!"\\Deleted"], .add (b!"INBOX") 2 []]).boxes.map (fun b => (b.inc, b.uidNext))).head? = some (0, 3) ∧
    ((reach 1 ([.add (b!"INBOX") 1 [b!"\\Deleted"], .add (b!"INBOX") 2 []] ++ [.expunge (b!"INBOX"), .rename (b!"INBOX") (b!"Old") 2])).boxes.map
      (fun b => (b.inc, b.uidNext))).head? = some (0, 3) := by decide +kernel

-- non-vacuity: a concrete history in which UIDs are assigned by all four routes
example : ((reach 1 [.add (b!"INBOX") 1 [], .add (b!"INBOX") 2 [], .copy (b!"INBOX") [1, 2] (b!"Sent"),
    .store (b!"INBOX") [b!"Junk"] .add [1], .rename (b!"INBOX") (b!"Old") 2, .add (b!"INBOX") 3 []]).log.map (fun e => (e.inc, e.uid)))
    = [(0, 3), (5, 2), (4, 1), (1, 2), (1, 1), (0, 2), (0, 1)] := by decide +kernel

/-! ## the statements behind the machine's `add` and `copy` (plan regenerated from /repo on every run) -/

/-- C03.7  a UID is allocated by **one** statement (`UPDATE mailboxes … RETURNING`) directly followed by the insertion of the
link: `AddMessageToMailboxPerUser` issues these two statements and nothing else — no separate read of the counter, no
`MAX(uid)`. This is the `add` step of `Model/Mail` and the allocation step of `Durable`. -/
theorem plan_uid_allocation :
    Plan.sqlOnly (Plan.trace (b!"db.AddMessageToMailboxPerUser")) = [(b!"sql UPDATE mailboxes RETURNING"), (b!"sql INSERT message_mailbox")] := by
  decide +kernel

/-- C03.7'  COPY and UID COPY take the new UIDs from the destination's counter inside one transaction (read the counter,
insert the links, write the counter back), never from `MAX(uid)`. -/
theorem plan_copy_from_counter :
    [(b!"message.HandleCopy"), (b!"uid.handleUIDCopy")].all (fun op =>
      let tx := Plan.inTx (Plan.trace op)
      Plan.free (b!"MAX(uid)") tx &&
      Plan.before (Plan.idx (b!"sql SELECT mailboxes") tx) (Plan.idx (b!"sql INSERT message_mailbox") tx) &&
      Plan.before (Plan.idx (b!"sql INSERT message_mailbox") tx) (Plan.idx (b!"sql UPDATE mailboxes") tx)) = true := by
  decide +kernel

/-- C03.7''  the UID announced by APPENDUID is **read from the link of the appended message**: in the plan of APPEND the
insertion of the link is followed by a look-up in `message_mailbox` and only then by the tagged OK (a UID derived from the
mailbox's counter — `uid_next - 1` — is another session's UID whenever an addition of that session lands in between). -/
theorem plan_appenduid_from_link :
    let t := Plan.trace (b!"message.HandleAppendWithReader")
    Plan.before (Plan.lastIdx (· = (b!"sql INSERT message_mailbox")) t) (Plan.lastIdx (· = (b!"sql SELECT message_mailbox")) t) = true ∧
    Plan.before (Plan.lastIdx (· = (b!"sql SELECT message_mailbox")) t) (Plan.lastIdx Plan.isAck t) = true := by
  decide +kernel

end Raven.Props.C03
