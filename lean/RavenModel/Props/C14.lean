import RavenModel.Model.PartTree
import RavenModel.Model.Split
import RavenModel.Model.Slices
/-! # C14 — the attributes of a message agree with each other -/
namespace Raven.Props.C14
open Raven

/-- C14.1  `BODY[HEADER]` followed by `BODY[TEXT]` is `BODY[]`, for every message text (with or without a blank line). -/
theorem header_plus_text (msg : Bytes) : Split.header msg ++ Split.text msg = msg := Split.header_append_text msg

/-- C14.1'  hence the sizes add up: RFC822.SIZE (the length of BODY[]) = |HEADER| + |TEXT|. -/
theorem size_is_sum (msg : Bytes) : msg.length = (Split.header msg).length + (Split.text msg).length := by
  rw [← List.length_append, Split.header_append_text]

/-- C14.2  section paths: following a path through the stored rows (root container invisible, children by relative number)
reaches exactly the part the path denotes in the submitted tree, and an absent path yields nothing on both sides — for every
tree and every path. -/
theorem mapPath_correct (t : PartTree.Tree) (path : List Nat) :
    match PartTree.mapPath (PartTree.flatten t) path, PartTree.subtreeAt t path with
    | some j, some s => PartTree.Rep (PartTree.flatten t) j s
    | none, none => True
    | _, _ => False :=
  PartTree.mapPath_flatten t path

/-- C14.3  a partial fetch `<o.n>` returns exactly that slice (and a negative origin is refused, not sliced). -/
theorem partial_is_slice (payload : Bytes) (o n : Nat) :
    Split.cut payload (o : Int) n = some ((payload.drop o).take n) ∧ Split.cut payload (-(o : Int) - 1) n = none := by
  refine ⟨Split.cut_is_slice payload o n, ?_⟩
  simp [Split.cut]; omega

/-- C14.4  ENVELOPE address lists: the split of an address header loses nothing — the pieces, joined again with the commas
that separated them, are the header value, for every header value. -/
theorem envelope_split_lossless (v : Bytes) : GoStr.joinWith b_comma (Slices.splitAddresses v) = v :=
  Slices.splitAddresses_join v

/-- C14.4'  each address structure is the header text taken apart, nothing lost and nothing invented: the piece is either
all address, or `name <address> rest` cut at the first `<` and `>` outside quoted strings; the display name is what precedes
`<` without surrounding blanks and quotes; mailbox and host are the address cut at its first `@` (no `@`: all mailbox). -/
theorem envelope_address_faithful (piece name mb host : Bytes) (h : Slices.parseOne piece = some (name, mb, host)) :
    ∃ n e, ((n = [] ∧ e = piece) ∨ ∃ rest, piece = n ++ 60 :: (e ++ 62 :: rest)) ∧
      name = Slices.trimQuotes (GoStr.trimSpace n) ∧
      ((e = mb ++ 64 :: host ∧ 64 ∉ mb) ∨ (64 ∉ e ∧ mb = e ∧ host = [])) := by
  obtain ⟨n, e, hc, hn, hm⟩ := Slices.parseOne_faithful piece name mb host h
  exact ⟨n, e, Slices.addrCut_faithful piece n e hc, hn, hm⟩

/-- C14.4''  quoted display names may contain commas, angle brackets and escaped quotes without disturbing the address. -/
theorem envelope_quoted_names :
    Slices.addressList (b!"\"Doe, John\" <jd@x>, o@y") = some [((b!"Doe, John"), (b!"jd"), (b!"x")), ([], (b!"o"), (b!"y"))] ∧
    Slices.addressList (b!"\"a <b>\" <m@h>") = some [((b!"a <b>"), (b!"m"), (b!"h"))] ∧
    Slices.addressList (b!"\"x \\\" y, z\" <m@h>") = some [((b!"x \\\" y, z"), (b!"m"), (b!"h"))] :=
  ⟨Slices.addressList_quoted_comma, by decide +kernel, by decide +kernel⟩

-- a message with a blank line is cut behind it; a path into the nested container finds its row, a path beyond the parts nothing
example : Split.header (b!"A: b\r\n\r\nbody") = b!"A: b\r\n\r\n" ∧ Split.text (b!"A: b\r\n\r\nbody") = b!"body" := by decide +kernel
example : PartTree.mapPath (PartTree.flatten (.multi [1] [.leaf [2], .multi [3] [.leaf [4], .leaf [5]]])) [2, 2] = some 4 := by decide +kernel
example : PartTree.mapPath (PartTree.flatten (.multi [1] [.leaf [2], .multi [3] [.leaf [4], .leaf [5]]])) [3] = none := by decide +kernel

end Raven.Props.C14
