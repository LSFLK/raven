import RavenModel.Model.Lmtp
import RavenModel.Model.LmtpLines
/-! # C16 — the LMTP dialogue stays in step with the client and is transparent to data -/
namespace Raven.Props.C16
open Raven Raven.Lmtp

/-- C16.1 (order and limits)  for **every** byte stream a client may send (pipelined or not, any commands, any data), the
session state always satisfies: a sender is recorded only after LHLO, recipients only after an accepted MAIL, the DATA
phase is entered only with at least one accepted recipient, and there are never more recipients than `max_recipients`. -/
theorem order_and_limits (cfg : Cfg) (env : Env) (input : Bytes) :
    WF cfg (runLines cfg env St.init (lines input)).1 :=
  wf_runLines cfg env St.init _ (wf_init cfg)

/-- C16.1'  the refusals themselves: MAIL before LHLO, RCPT before MAIL, DATA before RCPT are answered 503 and change
nothing; RCPT beyond the limit is answered 452. -/
theorem refusals (cfg : Cfg) (st : St) :
    (st.helo = [] → stepCmd cfg st (b!"MAIL FROM:<a@b>\r\n") = (st, [503])) ∧
    (st.mailFrom = [] → stepCmd cfg st (b!"RCPT TO:<a@b>\r\n") = (st, [503])) ∧
    (st.mailFrom ≠ [] → st.rcpts = [] → stepCmd cfg st (b!"DATA\r\n") = (st, [503])) ∧
    (st.mailFrom ≠ [] → st.rcpts.length ≥ cfg.maxRcpt → stepCmd cfg st (b!"RCPT TO:<a@b>\r\n") = (st, [452])) :=
  -- on a literal line `stepCmd` evaluates down to the guards of that command's handler, and a refusal is a guard that fires
  ⟨fun h => if_pos h, fun h => if_pos h, fun h1 h2 => (if_neg h1).trans (if_pos h2),
    fun h1 h2 => (if_neg h1).trans (if_pos h2)⟩

/-- C16.2 (transparency)  in the DATA phase a dot-stuffed body followed by the terminator (`.CRLF` or `.LF`) yields exactly the
body's octets — lines of dots, bare LF, lines that are LMTP commands, anything — as long as it is within the size limit;
no body line reaches the command interpreter. -/
theorem transparent (cfg : Cfg) (env : Env) (st : St) (body : List Bytes) (term : Bytes)
    (hq : st.quit = false) (hm : st.mode = .data [] 0 false)
    (hne : ∀ l ∈ body, l ≠ []) (hterm : isTerm term = true)
    (hsize : (body.flatten).length ≤ cfg.maxSize) :
    runLines cfg env st (stuff body ++ [term]) = endOfData env st (some body.flatten) := by
  simpa using data_transparent cfg env st body term [] 0 hq hm hterm (by omega)

/-- C16.3 (over-size stays in step)  once the limit is exceeded the rest of the message is still consumed up to the terminator
and the transaction is answered like any other: nothing of the message is executed as a command. -/
theorem oversize_stays_in_step (cfg : Cfg) (env : Env) (st : St) (ls : List Bytes) (term : Bytes) (size : Nat)
    (hq : st.quit = false) (hm : st.mode = .data [] size true)
    (hnt : ∀ l ∈ ls, isTerm l = false) (hterm : isTerm term = true) :
    runLines cfg env st (ls ++ [term]) = endOfData env st none :=
  oversize_in_step cfg env st ls term size hq hm hnt hterm

/-- C16.4  after the terminating dot exactly one reply per accepted recipient is sent, in RCPT order, whatever the message
(parsable or not, over-size or not), and the session is ready for the next transaction. -/
theorem one_reply_per_recipient (env : Env) (st : St) (msg : Option Bytes) :
    (endOfData env st msg).2.length = st.rcpts.length ∧
    (endOfData env st msg).1.mailFrom = [] ∧ (endOfData env st msg).1.rcpts = [] ∧ (endOfData env st msg).1.mode = .cmd :=
  endOfData_replies env st msg

/-- C16.4'  the i-th reply is the outcome for the i-th recipient. -/
theorem replies_in_rcpt_order (env : Env) (st : St) (m : Bytes) (h : env.accept m = true) :
    (endOfData env st (some m)).2 = st.rcpts.map (fun r => if env.deliver m r then 250 else 550) := by
  simp [endOfData, h]

-- non-vacuity: a pipelined session whose body contains a line of dots and an LMTP command
example : run ⟨1000, 2⟩ ⟨fun _ => true, fun _ _ => true⟩
    (b!"LHLO x\r\nMAIL FROM:<a@b>\r\nRCPT TO:<c@d>\r\nRcpt To:<e@f> NOTIFY=NEVER\r\nRCPT TO:<g@h>\r\nDATA\r\nSubject: x\r\n\r\n..\r\nQUIT\r\n.\r\nNOOP\r\n")
    = [220, 250, 250, 250, 250, 250, 250, 250, 250, 452, 354, 250, 250, 250] := by decide +kernel

/-- C16.7  the byte stream is read line by line and a line is what lies between two line feeds, **however long it is**: the
reader hands out exactly the lines that were written — none cut in pieces, none merged — and an unterminated tail is no line.
(The end-of-data test and the unstuffing of `runLines` therefore see true line starts only; a reader that hands a long line out
in buffer-sized pieces would test a dot in the middle of a line.) -/
theorem lines_as_written (ls : List Bytes) (tail : Bytes) (h : ∀ l ∈ ls, IsLine l) (ht : (10 : UInt8) ∉ tail) :
    lines (ls.flatten ++ tail) = ls :=
  lines_written ls tail h ht

/-- C16.2' (transparency on the byte stream)  the octets of a dot-stuffed body followed by the terminator yield exactly the
body, for lines of every length -/
theorem transparent_on_bytes (cfg : Cfg) (env : Env) (st : St) (body : List Bytes) (term : Bytes)
    (hq : st.quit = false) (hm : st.mode = .data [] 0 false)
    (hl : ∀ l ∈ body, IsLine l) (hterm : isTerm term = true) (hsize : (body.flatten).length ≤ cfg.maxSize) :
    runLines cfg env st (lines ((stuff body ++ [term]).flatten)) = endOfData env st (some body.flatten) :=
  data_bytes_transparent cfg env st body term hq hm hl hterm hsize

/-- non-vacuity: three lines (one a lone dot, stuffed on the wire), the terminator, and a tail without line end -/
example : lines (b!"ab\r\n..\r\n\n.\r\nQUI") = [(b!"ab\r\n"), (b!"..\r\n"), (b!"\n"), (b!".\r\n")] := by decide +kernel

end Raven.Props.C16
