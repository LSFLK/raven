import RavenModel.Model.Plan
import RavenModel.Model.AuthJson
import RavenModel.Model.Auth
/-! # C04 — only the identity the auth backend verified is authenticated -/
namespace Raven.Props.C04
open Raven Raven.Auth

/-- C04.1  the request body is faithful: whatever the address and password (quotes, backslashes, control characters,
`<>&`, U+2028/9, …), a strict JSON reader recovers exactly them from the body `encoding/json` builds. -/
theorem body_faithful (email pw : List Char) : Json.readBody (Json.mkBody email pw) = some (email, pw) :=
  Json.body_faithful email pw

/-- …which the `Sprintf` body of the pinned tree did not: a quote in the name rewrote the object. -/
theorem sprintf_body_unfaithful :
    (Json.readBody (Json.mkBodyPinned "m\",\"password\":\"x".toList "pw".toList)).map (·.1) ≠ some "m\",\"password\":\"x".toList :=
  Json.mkBodyPinned_unfaithful

/-- C04.2  the session is bound to the store of exactly the address the backend verified: for every admissible typed
name (at most one `@`) and every default domain, `local@domain` of the binding is the address sent. -/
theorem binding_is_verified_address (user dom : Bytes) (h : admissible user = true) :
    emailFor user dom = (bind user dom).1 ++ at' :: (bind user dom).2 :=
  bind_is_email user dom h

/-- …and names with two `@` cannot be admitted: there the two would differ. -/
theorem two_at_would_mismatch :
    emailFor (b!"a@b@c") (b!"example.com") ≠ (bind (b!"a@b@c") (b!"example.com")).1 ++ at' :: (bind (b!"a@b@c") (b!"example.com")).2 :=
  two_at_mismatch

inductive Backend where
  | status (code : Nat)
  | transportError          -- refused connection, timeout, reset, malformed reply
def decide' : Backend → Bool
  | .status 200 => true
  | _ => false
/-- C04.3  decision: access is granted for status 200 only — every other backend behaviour (401, 500, any other status,
transport error, timeout, garbage) is a refusal. -/
theorem accept_iff_200 (b : Backend) : decide' b = true ↔ b = .status 200 := by
  cases b with
  | status c => by_cases h : c = 200 <;> simp [decide', h]
  | transportError => simp [decide']

/-- C04.4  each SASL answer is a single line carrying the request's id. -/
theorem sasl_one_line (id user : Bytes) (hid : ∀ c ∈ id, c ≠ b_lf ∧ c ≠ b_tab) (hu : ∀ c ∈ user, isCtl c = false) :
    ((okLine id user).filter (· = b_lf)).length = 1 ∧ (GoStr.splitOn b_tab (okLine id user)).take 2 = [(b!"OK"), id] :=
  ok_is_one_line id user hid hu

/-- C04.5  for an RFC 4616 message `authzid NUL authcid NUL passwd` exactly `authcid` and `passwd` are used. -/
theorem plain_fields_exact (z u p : Bytes) (hz : ∀ c ∈ z, c ≠ 0) (hu : ∀ c ∈ u, c ≠ 0) (hp : ∀ c ∈ p, c ≠ 0) :
    plainSplit (z ++ 0 :: (u ++ 0 :: p)) = some (u, p) :=
  Auth.plain_fields_exact z u p hz hu hp

/-! ## where acceptance is decided (plan regenerated from /repo on every run) -/

/-- C04.6  acceptance is decided by exactly one comparison, `resp.StatusCode == 200`, made after the backend request: in
`authenticateUser` nothing is written to any store and the session is not marked authenticated before it, and the session is
marked authenticated in one place; the SASL service's `authenticate` returns `true` in one place, after the same comparison.
This is `decide'` (`accept_iff_200`: accept ⇔ status = 200) read off the code. -/
theorem plan_accept_only_after_200 :
    let t := Plan.trace (b!"auth.authenticateUser")
    let s := Plan.trace (b!"sasl.authenticate")
    let cond := (b!"cond resp.StatusCode == 200")
    Plan.before (Plan.idx (b!"backend request") t) (Plan.idx cond t) = true ∧
    Plan.count (fun e => GoStr.hasPrefix e (b!"cond ")) t = 1 ∧
    Plan.before (Plan.idx cond t) (Plan.idx (b!"set state.Authenticated = true") t) = true ∧
    Plan.count (fun e => GoStr.hasPrefix e (b!"set state.Authenticated")) t = 1 ∧
    (t.take ((Plan.idx cond t).getD 0)).any Plan.isSqlWrite = false ∧
    s = [(b!"backend request"), cond, (b!"return true")] := by
  decide +kernel

/-- C04.6'  the identity is looked up by equality: no statement that finds a user, a domain or a role mailbox by name uses
`LIKE` (in which `_` and `%` of an address would be wild cards). -/
theorem plan_identity_lookups_exact :
    [(b!"db.GetUserByUsername"), (b!"db.GetUserByEmail"), (b!"db.GetRoleMailboxByEmail"), (b!"db.RoleMailboxExists"),
     (b!"db.GetOrCreateUserInitialized"), (b!"db.GetOrCreateDomain"), (b!"db.IsUserAssignedToRoleMailbox"),
     (b!"auth.authenticateUser")].all (fun f => Plan.free (b!"LIKE(") (Plan.trace f) && !(Plan.trace f).isEmpty) = true := by
  decide +kernel

end Raven.Props.C04
