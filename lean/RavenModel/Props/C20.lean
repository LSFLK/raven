import RavenModel.Gen.Facts
import RavenModel.Model.Plan
import RavenModel.Model.Lifetime
/-! # C20 — sessions end when their client is gone; services shut down cleanly -/
namespace Raven.Props.C20
open Raven.Lifetime

/-- C20.1  a client that is gone ends the session from every state: at most two failed reads (the second one in the command
loop the first returned to) and the handler has returned. -/
theorem eof_closes (s : St) : fail (fail s .eof) .eof = .closed := by cases s <;> rfl

/-- …and one failed read suffices wherever the wait is the command loop itself or IDLE -/
theorem eof_closes_at_once (s : St) (h : s = .imapCmd ∨ s = .imapIdle ∨ s = .lmtpCmd ∨ s = .saslCmd) : fail s .eof = .closed := by
  rcases h with rfl | rfl | rfl | rfl <;> rfl

/-- C20.2  a client that falls silent is logged off in bounded time **in every state**: outside IDLE after the state's read
deadline plus, where the failed read returns to the command loop, that loop's deadline — at most 35 minutes for IMAP, twice
the configured timeout for LMTP, 30 s for SASL. -/
theorem silence_closes (t : Nat) (s : St) (h : s ≠ .imapIdle) :
    ∃ b, silenceBound t s = some b ∧ fail (fail s .deadline) .deadline = .closed ∧ b ≤ max (35 * 60 * 1000) (2 * t * 1000) := by
  -- the IMAP and SASL waits add up to at most 30 + 5 minutes, the LMTP waits to twice the timeout
  have hi {a : Nat} (ha : a ≤ 35 * 60 * 1000) : a ≤ max (35 * 60 * 1000) (2 * t * 1000) := Nat.le_trans ha (Nat.le_max_left ..)
  have hl {a : Nat} (ha : a ≤ 2 * t * 1000) : a ≤ max (35 * 60 * 1000) (2 * t * 1000) := Nat.le_trans ha (Nat.le_max_right ..)
  cases s with
  | imapIdle => exact absurd rfl h
  | lmtpCmd | lmtpData => exact ⟨_, rfl, rfl, hl (by omega)⟩
  | _ => exact ⟨_, rfl, rfl, hi (by decide)⟩

/-- C20.2'  …and inside IDLE (formerly finding C20-F1: no limit at all): whatever a round of the loop costs (`d` > 0 ms), the
session of a silent client is closed at the head of round `⌈limit/d⌉`, less than one round after the 30-minute limit. -/
theorem idle_silence_closes (d : Nat) (hd : 0 < d) :
    ∃ n e, n ≤ idleLimitMs / d + 2 ∧ silentRun d n (.imapIdle, 0) = (.closed, e) ∧ idleLimitMs ≤ e ∧ e < idleLimitMs + d := by
  -- k = the number of rounds that begin before the limit
  obtain ⟨k, hk1, hk2, hk3⟩ : ∃ k, idleLimitMs ≤ k * d ∧ k * d < idleLimitMs + d ∧ k ≤ idleLimitMs / d + 1 := by
    generalize idleLimitMs = L
    have h1 := Nat.div_add_mod' L d
    have h2 := Nat.mod_lt L hd
    by_cases hz : L % d = 0
    · exact ⟨L / d, by omega⟩
    · exact ⟨L / d + 1, by rw [Nat.succ_mul]; omega⟩
  refine ⟨k + 1, k * d, Nat.succ_le_succ hk3, ?_, hk1, hk2⟩
  rw [silentRun_add, idle_rounds d k 0 (by rwa [Nat.zero_add]), Nat.zero_add, silentRun, silentRun, silentStep, if_pos hk1]

/-- the bound the harness waits for: defined in every state -/
theorem silence_bound_total (t : Nat) (s : St) : (silenceBound t s).isSome = true := by
  cases s <;> rfl

-- non-vacuity: with rounds of 7 minutes the session is closed at the head of the sixth round, 35 minutes after IDLE began
example : silentRun 420000 6 (.imapIdle, 0) = (.closed, 2100000) ∧ silentRun 420000 5 (.imapIdle, 0) = (.imapIdle, 2100000) := by decide +kernel

/-- every deadline the code sets is one of the documented ones (30 min command, 5 min literal, 30 s authentication / SASL,
the 50 ms poll inside IDLE) -/
theorem deadlines (t : Nat) :
    deadlineMs t .imapCmd = some 1800000 ∧ deadlineMs t .imapLiteral = some 300000 ∧ deadlineMs t .imapAuthWait = some 30000 ∧
    deadlineMs t .saslCmd = some 30000 ∧ deadlineMs t .lmtpCmd = some (t * 1000) ∧ deadlineMs t .lmtpData = some (t * 1000) ∧
    deadlineMs t .imapIdle = some 50 ∧ idleLimitMs = 1800000 :=
  ⟨rfl, rfl, rfl, rfl, rfl, rfl, rfl, rfl⟩

/-- C20.3  after Shutdown no dial is accepted, whatever else happens -/
theorem no_accept_after_shutdown : ∀ (es : List SEv) (s : Srv), s.listening = false → ∀ a ∈ (srun s es).2, a = false
  | [], _, _ => nofun
  | e :: es, s, hl =>
    have ⟨h1, h2, _⟩ := sstep_stopped s e hl
    List.forall_mem_cons.mpr ⟨h2, no_accept_after_shutdown es _ h1⟩

theorem shutdown_stops_listening (s : Srv) : (sstep s .shutdown).1.listening = false ∧ (sstep s .shutdown).1.stopping = true := by
  simp [sstep]

/-- C20.4  once shutdown is signalled, the accept loops have left and the connections in flight have ended, `Start()` returns;
and it cannot return while a connection goroutine is still running -/
theorem start_returns_iff (s : Srv) : startReturned s = true ↔ s.conns = 0 ∧ s.acceptors = 0 := by
  simp [startReturned]

/-- the connection count never goes up after shutdown: with C20.1/2 each remaining session ends in bounded time, so the wait is bounded -/
theorem conns_monotone_after_shutdown : ∀ (es : List SEv) (s : Srv), s.listening = false → (srun s es).1.conns ≤ s.conns
  | [], _, _ => Nat.le_refl _
  | e :: es, s, hl =>
    have ⟨h1, _, h2⟩ := sstep_stopped s e hl
    Nat.le_trans (conns_monotone_after_shutdown es _ h1) h2

example : (srun { listening := true, stopping := false, conns := 0, acceptors := 1 } [.dial, .shutdown, .dial, .connDone, .acceptorExit]) =
    ({ listening := false, stopping := true, conns := 0, acceptors := 0 }, [true, false, false, false, false]) := by decide +kernel

/-! ## the deadlines the code arms (regenerated from /repo on every run) -/

/-- C20.11  the read deadlines of `deadlineMs` are the ones in the code: every waiting loop arms the deadline the model
gives its state (command line 30 min, literal 5 min with a 100 ms drain, AUTHENTICATE response 30 s, IDLE poll 50 ms, SASL
30 s at both reads, LMTP the configured `timeout` at both waits — as a deadline for reads **and writes**, so that a client
that stops reading cannot hold the session in a write), no deadline is ever lifted (`time.Time{}`), and nothing
else in the services touches a deadline: the table has eleven entries, the nine the conjuncts name and the two of
`message.HandleAppend`, the APPEND handler without the buffered reader, which arms the same pair (100 ms, 5 min) and is
covered by the count and by "never lifted" only. `deadlineMs 300`: the argument is the LMTP timeout, which the IMAP and SASL
states do not look at; any number would do there. -/
theorem plan_deadlines :
    Raven.Plan.deadlinesAt (b!"server.handleClient") = (deadlineMs 300 .imapCmd).toList.map Int.ofNat ∧
    Raven.Plan.deadlinesAt (b!"message.HandleAppendWithReader") = 100 :: (deadlineMs 300 .imapLiteral).toList.map Int.ofNat ∧
    Raven.Plan.deadlinesAt (b!"auth.HandleAuthenticate") = (deadlineMs 300 .imapAuthWait).toList.map Int.ofNat ∧
    Raven.Plan.deadlinesAt (b!"extension.HandleIdle") = (deadlineMs 300 .imapIdle).toList.map Int.ofNat ∧
    Raven.Plan.deadlinesAt (b!"sasl.Server.handleConnection") = ((deadlineMs 300 .saslCmd).toList ++ (deadlineMs 300 .saslCmd).toList).map Int.ofNat ∧
    ((Raven.Gen.deadlines.filter (fun d => d.at' = (b!"lmtp.Session.Handle"))).map (fun d => (d.call, d.ms, d.var))) =
      [((b!"SetDeadline"), -1, (b!"timeout")), ((b!"SetDeadline"), -1, (b!"timeout"))] ∧
    Raven.Gen.deadlines.all (fun d => d.ms ≠ 0) = true ∧
    Raven.Gen.deadlines.length = 11 := by
  decide +kernel

/-- C20.12  the limit of a silent IDLE is measured from one moment: the variable compared with `IdleTimeout` is assigned once,
before the polling loop, and nowhere inside it — so what `idle_silence_closes` counts as rounds of silence is the client's
silence, whatever the mailbox does meanwhile (a loop that restarts the clock on every change of the mailbox never ends under a
steady stream of deliveries). Regenerated from /repo on every run. -/
theorem idle_clock_counts_silence : Raven.Gen.idleClock = ((b!"idleSince"), 1, 0) := by decide +kernel

/-- C20.13  a session that waits for the authentication backend waits for a bounded time: every HTTP client the services
build (IMAP login, SASL) carries an overall `Timeout` — which covers the dial, the TLS handshake, the headers and the body —
and nothing uses the package-level client, which has none. A session whose client has gone away therefore ends when its
request does, and `Shutdown`, which waits for the sessions, returns. Regenerated from /repo on every run. -/
theorem backend_requests_bounded :
    Raven.Gen.httpClients = [((b!"auth.authenticateUser"), true), ((b!"sasl.Server.authenticate"), true)] := by decide +kernel

end Raven.Props.C20
