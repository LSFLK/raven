import RavenModel.Base.Bytes
/-! The pieces of Go's `strings` package the server uses, over octets. -/
namespace Raven.GoStr
open Raven

/-- `strings.Fields` on ASCII white space; `cur` is the current token, reversed -/
def fieldsAux : Bytes → Bytes → List Bytes
  | cur, [] => if cur.isEmpty then [] else [cur.reverse]
  | cur, c :: cs =>
    if isSpace c then (if cur.isEmpty then fieldsAux [] cs else cur.reverse :: fieldsAux [] cs)
    else fieldsAux (c :: cur) cs
def fields (s : Bytes) : List Bytes := fieldsAux [] s

/-- `strings.Join(ts, " ")` -/
def join : List Bytes → Bytes
  | [] => []
  | [t] => t
  | t :: u :: ts => t ++ 32 :: join (u :: ts)

def Tok (t : Bytes) : Prop := t ≠ [] ∧ ∀ c ∈ t, isSpace c = false

theorem fieldsAux_tok (t cur rest : Bytes) (h : ∀ c ∈ t, isSpace c = false) :
    fieldsAux cur (t ++ rest) = fieldsAux (t.reverse ++ cur) rest := by
  induction t generalizing cur with
  | nil => simp
  | cons c cs ih =>
    have hc := h c (by simp)
    simp only [List.cons_append, fieldsAux, hc, Bool.false_eq_true, if_false]
    rw [ih (c :: cur) (fun x hx => h x (by simp [hx]))]
    simp

theorem fields_tok (t : Bytes) (ht : Tok t) : fields t = [t] := by
  have := fieldsAux_tok t [] [] ht.2
  rw [List.append_nil, List.append_nil] at this
  rw [fields, this, fieldsAux, if_neg (by simpa using ht.1), List.reverse_reverse]

theorem fields_tok_sp (t s : Bytes) (ht : Tok t) : fields (t ++ 32 :: s) = t :: fields s := by
  have := fieldsAux_tok t [] (32 :: s) ht.2
  rw [List.append_nil] at this
  rw [fields, this, fieldsAux, if_pos (by decide), if_neg (by simpa using ht.1), List.reverse_reverse, fields]

theorem fields_join : ∀ ts : List Bytes, (∀ t ∈ ts, Tok t) → fields (join ts) = ts
  | [], _ => rfl
  | [t], h => fields_tok t (h t (by simp))
  | t :: u :: ts, h => by
    rw [join, fields_tok_sp _ _ (h t (by simp)), fields_join (u :: ts) (fun x hx => h x (by simp [hx]))]

/-- `strings.Split(s, sep)` for a one-octet separator -/
def splitOn (sep : UInt8) : Bytes → List Bytes
  | [] => [[]]
  | c :: cs =>
    if c = sep then [] :: splitOn sep cs
    else match splitOn sep cs with
      | [] => [[c]]          -- unreachable: splitOn never returns []
      | p :: ps => (c :: p) :: ps

def joinWith (sep : UInt8) : List Bytes → Bytes
  | [] => []
  | [p] => p
  | p :: q :: ps => p ++ sep :: joinWith sep (q :: ps)

theorem splitOn_ne_nil (sep : UInt8) (s : Bytes) : splitOn sep s ≠ [] := by
  induction s with
  | nil => simp [splitOn]
  | cons c cs ih =>
    simp only [splitOn]
    split
    · simp
    · split <;> simp

theorem splitOn_nosep (sep : UInt8) (p : Bytes) (h : ∀ c ∈ p, c ≠ sep) : splitOn sep p = [p] := by
  induction p with
  | nil => rfl
  | cons c cs ih =>
    have hc := h c (by simp)
    simp [splitOn, hc, ih (fun x hx => h x (by simp [hx]))]

theorem splitOn_nosep_sep (sep : UInt8) (p rest : Bytes) (h : ∀ c ∈ p, c ≠ sep) :
    splitOn sep (p ++ sep :: rest) = p :: splitOn sep rest := by
  induction p with
  | nil => simp [splitOn]
  | cons c cs ih =>
    have hc := h c (by simp)
    simp [splitOn, hc, ih (fun x hx => h x (by simp [hx]))]

theorem splitOn_join (sep : UInt8) : ∀ ps : List Bytes, ps ≠ [] → (∀ p ∈ ps, ∀ c ∈ p, c ≠ sep) →
    splitOn sep (joinWith sep ps) = ps
  | [], h, _ => absurd rfl h
  | [p], _, h => by simpa [joinWith] using splitOn_nosep sep p (h p (by simp))
  | p :: q :: ps, _, h => by
    simp only [joinWith]
    rw [splitOn_nosep_sep sep p _ (h p (by simp)), splitOn_join sep (q :: ps) (by simp) (fun x hx => h x (by simp [hx]))]

/-- `strings.HasPrefix` -/
def hasPrefix : Bytes → Bytes → Bool
  | _, [] => true
  | [], _ :: _ => false
  | c :: cs, p :: ps => c = p && hasPrefix cs ps

def hasSuffix (s suf : Bytes) : Bool := hasPrefix s.reverse suf.reverse

/-- `strings.Contains` (substring) -/
def containsSub : Bytes → Bytes → Bool
  | [], sub => sub.isEmpty
  | c :: cs, sub => hasPrefix (c :: cs) sub || containsSub cs sub

/-- `strings.TrimLeft(s, cutset)` / `TrimRight` / `Trim` for an octet predicate -/
def trimLeftP (p : UInt8 → Bool) : Bytes → Bytes
  | [] => []
  | c :: cs => if p c then trimLeftP p cs else c :: cs
def trimRightP (p : UInt8 → Bool) (s : Bytes) : Bytes := (trimLeftP p s.reverse).reverse
def trimP (p : UInt8 → Bool) (s : Bytes) : Bytes := trimRightP p (trimLeftP p s)
/-- `strings.TrimSpace` (ASCII) -/
def trimSpace (s : Bytes) : Bytes := trimP isSpace s
/-- `strings.Trim(s, "\"")` -/
def trimQuotes (s : Bytes) : Bytes := trimP (· = 34) s
/-- `strings.Trim(s, "()")` -/
def trimParens (s : Bytes) : Bytes := trimP (fun c => c = 40 || c = 41) s
/-- `strings.TrimSuffix` -/
def trimSuffix (s suf : Bytes) : Bytes := if hasSuffix s suf then s.take (s.length - suf.length) else s
def trimPrefix (s pre : Bytes) : Bytes := if hasPrefix s pre then s.drop pre.length else s

/-- `strings.EqualFold` / `ToUpper(x) == ToUpper(y)` on ASCII -/
def equalFold (a b : Bytes) : Bool := toUpper a = toUpper b

/-- the last step of `parseRcptTo` (LMTP): what follows the last `@` in ASCII lower case — domains are case-insensitive
(RFC 5321 §2.4), local parts are left as they are -/
def lowerDomain (a : Bytes) : Bytes :=
  let dom := a.reverse.takeWhile (· ≠ 64)
  if dom.length = a.length then a
  else (a.reverse.drop dom.length).reverse ++ toLower dom.reverse

theorem ne_at_of_not_mem {a : Bytes} (h : 64 ∉ a) : ∀ x ∈ a.reverse, decide (x ≠ 64) = true :=
  fun _ hx => decide_eq_true fun e => h (e ▸ List.mem_reverse.mp hx)

theorem lowerDomain_at (l d : Bytes) (hd : 64 ∉ d) : lowerDomain (l ++ 64 :: d) = l ++ 64 :: toLower d := by
  have hr : (l ++ 64 :: d).reverse = d.reverse ++ 64 :: l.reverse := by simp
  have htw : (d.reverse ++ 64 :: l.reverse).takeWhile (· ≠ 64) = d.reverse := by
    rw [List.takeWhile_append_of_pos (ne_at_of_not_mem hd)]; simp
  have hlen : ¬ d.reverse.length = (l ++ 64 :: d).length := by simp; omega
  rw [lowerDomain, hr, htw]
  simp only [hlen, if_false, List.drop_left]
  simp

theorem lowerDomain_noat (a : Bytes) (h : 64 ∉ a) : lowerDomain a = a := by
  have htw : a.reverse.takeWhile (· ≠ 64) = a.reverse := by
    simpa using List.takeWhile_append_of_pos (l₂ := []) (ne_at_of_not_mem h)
  simp only [lowerDomain, htw, List.length_reverse, if_true]

theorem joinWith_cons (sep : UInt8) (x : Bytes) (l : List Bytes) (h : l ≠ []) :
    joinWith sep (x :: l) = x ++ sep :: joinWith sep l := by
  cases l with
  | nil => exact absurd rfl h
  | cons y r => rfl

theorem toLower_append (x y : Bytes) : toLower (x ++ y) = toLower x ++ toLower y := by simp [toLower]

end Raven.GoStr
