import RavenModel.Base.GoStr
/-! `strings.HasPrefix` and `strings.Contains` as modelled in `GoStr` are what their names say: a prefix, a factor. The
substring keys of SEARCH (`SearchImpl`: FROM, TO, CC, BCC, SUBJECT, HEADER, BODY, TEXT) and the flag / header tests of several
models rest on them; a matcher that is not a factor test (one that restarts wrongly after a partial match, say) differs from
`containsSub` on some input, and the correspondence finds it. -/
namespace Raven.GoStr

theorem hasPrefix_iff : ∀ (s p : Bytes), hasPrefix s p = true ↔ ∃ t, s = p ++ t
  | s, [] => by simp [hasPrefix]
  | [], q :: ps => by simp [hasPrefix]
  | c :: cs, q :: ps => by
    simp only [hasPrefix, Bool.and_eq_true, decide_eq_true_eq, hasPrefix_iff cs ps, List.cons_append, List.cons.injEq]
    constructor
    · rintro ⟨rfl, t, rfl⟩; exact ⟨t, rfl, rfl⟩
    · rintro ⟨t, rfl, rfl⟩; exact ⟨rfl, t, rfl⟩

theorem hasPrefix_append (p t : Bytes) : hasPrefix (p ++ t) p = true := (hasPrefix_iff _ _).2 ⟨t, rfl⟩

theorem hasPrefix_length (s p : Bytes) (h : hasPrefix s p = true) : p.length ≤ s.length := by
  obtain ⟨t, rfl⟩ := (hasPrefix_iff s p).1 h
  simp

theorem prefix_within (x : Bytes) (c : UInt8) (y p : Bytes) (hc : c ∉ p) (h : hasPrefix (x ++ c :: y) p = true) :
    p.length ≤ x.length ∧ hasPrefix x p = true := by
  obtain ⟨t, ht⟩ := (hasPrefix_iff _ _).1 h
  rcases List.append_eq_append_iff.1 ht with ⟨a, rfl, ha⟩ | ⟨z, rfl, _⟩
  · -- `p` reaches to the end of `x` or beyond: then `c` is in it, or `p = x`
    cases a with
    | nil => simpa using hasPrefix_append x []
    | cons u a => cases (List.cons.inj ha).1; simp at hc
  · simp [hasPrefix_append]

theorem hasPrefix_append_right (x p y : Bytes) (h : hasPrefix x p = true) : hasPrefix (x ++ y) p = true := by
  obtain ⟨t, rfl⟩ := (hasPrefix_iff _ _).1 h
  rw [List.append_assoc]; exact hasPrefix_append _ _

theorem containsSub_iff : ∀ (s sub : Bytes), containsSub s sub = true ↔ ∃ a b, s = a ++ sub ++ b
  | [], sub => by
    simp only [containsSub, List.isEmpty_iff]
    constructor
    · rintro rfl; exact ⟨[], [], rfl⟩
    · rintro ⟨a, b, h⟩
      have := congrArg List.length h
      simp only [List.length_nil, List.length_append] at this
      exact List.eq_nil_of_length_eq_zero (by omega)
  | c :: cs, sub => by
    simp only [containsSub, Bool.or_eq_true, hasPrefix_iff, containsSub_iff cs sub]
    constructor
    · rintro (⟨t, h⟩ | ⟨a, b, h⟩)
      · exact ⟨[], t, by simpa using h⟩
      · exact ⟨c :: a, b, by simp [h]⟩
    · rintro ⟨a, b, h⟩
      cases a with
      | nil => exact Or.inl ⟨b, by simpa using h⟩
      | cons x a' =>
        simp only [List.cons_append, List.cons.injEq] at h
        exact Or.inr ⟨a', b, h.2⟩

end Raven.GoStr
