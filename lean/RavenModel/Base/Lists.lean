/-! General facts that several models need and core does not have: about lists, and one about the fuel of the readers. -/
namespace Raven

theorem eq_of_key {α β} (f : α → β) {l : List α} (h : (l.map f).Nodup) {a b : α} (ha : a ∈ l) (hb : b ∈ l) (e : f a = f b) :
    a = b :=
  have p := List.pairwise_map.mp h
  (p.imp fun ne e => absurd e ne).forall_of_forall_of_flip (R := fun a b => f a = f b → a = b) (fun _ _ _ => rfl)
    (p.imp fun ne e => absurd e.symm ne) ha hb e

theorem nodup_snoc {α} {l : List α} {a : α} (h : l.Nodup) (ha : a ∉ l) : (l ++ [a]).Nodup :=
  List.nodup_append.mpr ⟨h, List.pairwise_singleton _ _, fun _ hx _ hy e => ha (List.mem_singleton.mp hy ▸ e ▸ hx)⟩

theorem mapM_total {α β : Type} (f : α → Option β) (h : ∀ a, (f a).isSome = true) : ∀ l : List α, (l.mapM f).isSome = true
  | [] => rfl
  | a :: l => by
    obtain ⟨b, hb⟩ := Option.isSome_iff_exists.mp (h a)
    obtain ⟨bs, hbs⟩ := Option.isSome_iff_exists.mp (mapM_total f h l)
    rw [List.mapM_cons, hb, hbs]; rfl

/-- a reader that is given `f + 1` units of fuel and charges one for itself has `f` left for each of its parts: what `cost`
(Search) and `need` (Resp) are made for. A reader with one part takes `y := 0` (`1 + x + 0` is `1 + x` by computation). -/
theorem fuel_parts {x y f : Nat} (h : 1 + x + y ≤ f + 1) : x ≤ f ∧ y ≤ f := by omega

end Raven
