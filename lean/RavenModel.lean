import RavenModel.Base.Bytes
import RavenModel.Base.Lists
import RavenModel.Base.Dec
import RavenModel.Base.GoStr
import RavenModel.Model.Wildcard
import RavenModel.Model.WildcardDP
import RavenModel.Model.ListMatch
import RavenModel.Model.SeqSet
import RavenModel.Model.Flags
import RavenModel.Model.Mail
import RavenModel.Model.MailSteps
import RavenModel.Model.MailInv
import RavenModel.Model.MailDesc
import RavenModel.Props.C03
import RavenModel.Props.C18
import RavenModel.Model.Expunge
import RavenModel.Model.Session
import RavenModel.Props.C09
import RavenModel.Props.C10
import RavenModel.Model.Names
import RavenModel.Props.C11
import RavenModel.Model.Lmtp
import RavenModel.Props.C16
import RavenModel.Model.Policy
import RavenModel.Props.C17
import RavenModel.Model.Auth
import RavenModel.Model.AuthJson
import RavenModel.Props.C04
import RavenModel.Gen.Facts
import RavenModel.Model.Proto
import RavenModel.Model.World
import RavenModel.Props.C05
import RavenModel.Props.C06
import RavenModel.Model.Resp
import RavenModel.Props.C13
import RavenModel.Model.PartTree
import RavenModel.Model.Headers
import RavenModel.Model.Blob
import RavenModel.Model.Split
import RavenModel.Props.C02
import RavenModel.Props.C14
import RavenModel.Props.C15
import RavenModel.Model.Search
import RavenModel.Model.SearchImpl
import RavenModel.Props.C19
import RavenModel.Model.Slices
import RavenModel.Model.Notify
import RavenModel.Props.C12
import RavenModel.Model.Lifetime
import RavenModel.Props.C20
import RavenModel.Model.Deliver
import RavenModel.Props.C01
import RavenModel.Model.Durable
import RavenModel.Props.C07
import RavenModel.Model.Interleave
import RavenModel.Props.C08
